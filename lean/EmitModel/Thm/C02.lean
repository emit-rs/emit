/-
  Thm/C02.lean — property C02: property lookup always agrees with enumeration; the first value for a key wins.
  The property theorems and, for the macro clauses, the lemmas about `expand` they need; the lemmas about lookup and
  enumeration are in Base/Assoc.lean and Lemmas/Props.lean.

  OBLIGATIONS (audited by `check` with `#print axioms`):
    for_each_eq_fold, enum_is_collected, get_eq_first, pull_get, unique_nodup, dedup_first, dedup_order,
    break_ignores_rest, break_stops, hash_order_irrelevant, wf_btree_fromInserts, wf_hash_fromInserts,
    wf_frame_pushInto, frame_lookup, frame_keys,
    macro_get_eq_first, expand_wf, expand_wf_of_distinct, expand_enum_perm, macro_site_coherent, render_hole,
    macro_rename_breaks_lookup
-/
import EmitModel.Lemmas.Props

namespace EmitModel.C02
open EmitModel.Props EmitModel.Assoc Std

/-- **Enumeration with a visitor.** For every collection (any nesting of the combinators, including `Dedup`, whose
    inner pass ignores breaks while its outer pass honours them), every visitor and every initial visitor state,
    `for_each` visits exactly the pairs of the enumeration, in order, and stops at the first pair for which the
    visitor returns `Break`; its result is `Break` iff the visitor broke. -/
theorem for_each_eq_fold {σ : Type} (p : P) (f : Visitor σ) (s : σ) :
    forEach p f s = foldUntil (fun s kv => f s kv.1 kv.2) s (enum p) :=
  forEach_eq p f s

/-- `for_each_eq_fold`, spelled out for a break: once the visitor has been handed the pairs `pre` without breaking and
    breaks on the next pair, `for_each` returns `Break` with the visitor's state at that point — whatever the rest of
    the enumeration is, it is never visited. -/
theorem break_ignores_rest {σ : Type} (p : P) (f : Visitor σ) (s s' s'' : σ)
    (pre post : List (String × Val)) (kv : String × Val) (he : enum p = pre ++ kv :: post)
    (hpre : foldUntil (fun s kv => f s kv.1 kv.2) s pre = (s', false)) (hkv : f s' kv.1 kv.2 = (s'', true)) :
    forEach p f s = (s'', true) := by
  rw [forEach_eq, he, foldUntil_append, show foldUntil (unc f) s pre = _ from hpre]
  simp [foldUntil, hkv]

/-- `enum` is what a collecting, never-breaking visitor sees (this is how the harness observes it). -/
theorem enum_is_collected (p : P) :
    forEach p (fun (acc : List (String × Val)) k v => (acc ++ [(k, v)], false)) [] = (enum p, false) := by
  rw [forEach_eq]
  show foldUntil (fun acc (kv : String × Val) => (acc ++ [(kv.1, kv.2)], false)) [] (enum p) = _
  rw [foldUntil_never]
  suffices ∀ (xs acc : List (String × Val)), xs.foldl (fun acc kv => acc ++ [(kv.1, kv.2)]) acc = acc ++ xs by
    simp [this]
  intro xs
  induction xs with
  | nil => simp
  | cons a xs ih => intro acc; simp [ih]

/-- Lookup in a macro-built collection is the first-wins lookup of its enumeration — for every runtime array
    (any order, renamed keys, `None` values, elements removed by `#[cfg]`), with no sortedness assumption.
    (False before the D1 fix: see `macro_rename_breaks_lookup`.) -/
theorem macro_get_eq_first (es : List (String × Option Val)) (k : String) :
    get (.macro es) k = lookupFirst k (enum (.macro es)) := by
  simp only [Props.get, enum]
  induction es with
  | nil => rfl
  | cons a es ih =>
    obtain ⟨k', ov⟩ := a
    cases ov with
    | none => simp [macroGet, macroEnum, ih]
    | some v => simp [macroGet, macroEnum, lookupFirst_cons, ih]

/-- **Lookup agrees with enumeration.** For every well-formed collection and every key, `get` returns exactly the
    first value the enumeration yields for that key, or nothing if the enumeration never yields it. -/
theorem get_eq_first : ∀ (p : P) (k : String), WF p → get p k = lookupFirst k (enum p)
  | .btree es, k, h => by simp only [Props.get, enum]; exact btreeGet_eq (by simpa [WF] using h) k
  | .hash es, k, _ | .frame es, k, _ => by simp [Props.get, enum, hashGet]
  | .and a b, k, h => by
    have h' : WF a ∧ WF b := by simpa [WF] using h
    simp only [Props.get, enum, lookupFirst_append, get_eq_first a k h'.1, get_eq_first b k h'.2]
    cases lookupFirst k (enum a) <;> simp
  -- the impls that forward `get`
  | .ref p, k, h | .erased p, k, h | .asMap p, k, h => by
    simp only [Props.get, enum]; exact get_eq_first p k (by simpa [WF] using h)
  | .dedup p, k, h => by
    rw [lookupFirst_enum_dedup]; simp only [Props.get]; exact get_eq_first p k (by simpa [WF] using h)
  | .empty, k, _ => by simp [Props.get, enum]
  | .macro es, k, _ => macro_get_eq_first es k
  -- the impls that leave `get` to the trait default
  | .pair _ _, k, _ | .slice _, k, _ | .arr _, k, _ | .optNone, k, _ | .optSome _, k, _ | .boxed _, k, _
  | .shared _, k, _ | .extentPoint _, k, _ | .extentRange _ _, k, _ | .spanCtxt _ _ _, k, _ | .spanView _ _, k, _
  | .metricView _ _ _ _, k, _ | .slot _, k, _ => by simp only [Props.get]; exact scan_eq _ _

/-- `pull` is `get` followed by the cast, also where `pull` is overridden (`&P`, `AsMap`). -/
theorem pull_get : ∀ (p : P) (k : String), pullInt p k = (get p k).bind Val.castInt
  | .ref p, k => by simp only [pullInt, Props.get]; exact pull_get p k
  | .asMap p, k => by simp only [pullInt, Props.get]; exact pull_get p k
  | .pair _ _, _ | .slice _, _ | .arr _, _ | .btree _, _ | .hash _, _ | .optNone, _ | .optSome _, _
  | .and _ _, _ | .boxed _, _ | .shared _, _ | .erased _, _ | .dedup _, _ | .empty, _ | .macro _, _
  | .extentPoint _, _ | .extentRange _ _, _ | .spanCtxt _ _ _, _ | .spanView _ _, _ | .metricView _ _ _ _, _
  | .frame _, _ | .slot _, _ => by
    simp [pullInt]

/-- **Uniqueness claims are honest.** A well-formed collection that claims `is_unique` never enumerates a key
    twice. -/
theorem unique_nodup : ∀ (p : P), WF p → isUnique p = true → (keys (enum p)).Nodup
  | .pair a v, _, _ | .empty, _, _ => by simp [enum]
  | .btree es, h, _ => by
    have : Sorted compare es := by simpa [WF] using h
    simpa [enum] using this.nodup_keys
  | .hash es, h, _ | .macro es, h, _ | .frame es, h, _ => by simpa [WF, enum] using h
  -- the impls that forward `is_unique`
  | .ref p, h, hu | .erased p, h, hu | .asMap p, h, hu => by
    simp only [enum]; exact unique_nodup p (by simpa [WF] using h) (by simpa [isUnique] using hu)
  | .dedup p, h, _ => by
    simp only [enum]
    split
    · next hu => exact unique_nodup p (by simpa [WF] using h) hu
    · exact (sorted_collectFirst (cmp := compare) (enum p)).nodup_keys
  -- the impls that leave `is_unique` to the trait default claim nothing
  | .slice _, _, h | .arr _, _, h | .optNone, _, h | .optSome _, _, h | .and _ _, _, h | .boxed _, _, h
  | .shared _, _, h | .extentPoint _, _, h | .extentRange _ _, _, h | .spanCtxt _ _ _, _, h | .spanView _ _, _, h
  | .metricView _ _ _ _, _, h | .slot _, _, h => by simp [isUnique] at h

/-- **De-duplication keeps the first value.** For every well-formed collection `p`, the enumeration of `p.dedup()`
    yields every key at most once, yields exactly the keys `p` yields, maps each key to the first value `p`
    yields for it, looking a key up in the de-duplicated view is looking it up in `p`, and the view claims uniqueness. -/
theorem dedup_first (p : P) (h : WF p) :
    (keys (enum (.dedup p))).Nodup ∧
    (∀ k, k ∈ keys (enum (.dedup p)) ↔ k ∈ keys (enum p)) ∧
    (∀ k, lookupFirst k (enum (.dedup p)) = lookupFirst k (enum p)) ∧
    (∀ k, get (.dedup p) k = get p k) ∧
    isUnique (.dedup p) = true :=
  ⟨unique_nodup (.dedup p) (by simpa [WF] using h) rfl,
   mem_keys_iff_of_lookup_eq (lookupFirst_enum_dedup p),
   lookupFirst_enum_dedup p,
   fun _ => rfl,
   rfl⟩

/-- The order `Dedup` enumerates in: the inner order when the inner collection claims uniqueness, otherwise
    strictly increasing keys (the `BTreeMap` it collects into) — not the order of first occurrence. -/
theorem dedup_order (p : P) :
    (isUnique p = true → enum (.dedup p) = enum p) ∧
    (isUnique p = false → Sorted compare (enum (.dedup p))) := by
  constructor
  · intro h; simp [enum, h]
  · intro h; simp only [enum, h]; exact sorted_collectFirst _

theorem foldUntil_breakAt (i : Nat) (xs : List (String × Val)) : ∀ c, c ≤ i →
    foldUntil (fun (s : Nat) (_ : String × Val) => (s + 1, decide (i ≤ s))) c xs
      = (min (i + 1) (c + xs.length), decide (i < c + xs.length)) := by
  induction xs with
  | nil => intro c hc; simp <;> omega
  | cons a xs ih =>
    intro c hc
    simp only [foldUntil]
    by_cases h : i ≤ c
    · have : c = i := by omega
      subst this
      simp <;> omega
    · simp only [h, decide_false]
      rw [ih (c + 1) (by omega)]
      have e : c + 1 + xs.length = c + (a :: xs).length := by simp only [List.length_cons]; omega
      rw [e]

/-- **Enumeration stops as soon as the visitor asks.** With the visitor that counts its calls and breaks at call
    index `i` (and would break again at any later call), every collection makes exactly `min (i+1) n` calls,
    `n` the length of the enumeration, and reports `Break` iff `i < n`. -/
theorem break_stops (p : P) (i : Nat) :
    visits p i = (min (i + 1) (enum p).length, decide (i < (enum p).length)) := by
  unfold visits
  rw [forEach_eq]
  show foldUntil (fun (s : Nat) (_ : String × Val) => (s + 1, decide (i ≤ s))) 0 (enum p) = _
  rw [foldUntil_breakAt i _ 0 (Nat.zero_le _)]
  simp

/-- The iteration order inside a hash map cannot be observed through `get`: two hash nodes with the same distinct-keyed
    entries in different orders answer every lookup alike. -/
theorem hash_order_irrelevant {es es' : List (String × Val)} (hp : es.Perm es') (hn : (keys es).Nodup) (k : String) :
    get (.hash es) k = get (.hash es') k := by
  simp only [Props.get, hashGet]; exact lookupFirst_perm hp hn k

/-- A `BTreeMap` built by any sequence of `insert`s is a well-formed `btree` node. -/
theorem wf_btree_fromInserts (xs : List (String × Val)) : WF (.btree (fromInserts compare xs)) := by
  simp only [WF]; exact sorted_fromInserts xs

/-- The entry list of such a `BTreeMap` is also a well-formed `hash` node (the driver lists hash entries in key order; by
    `hash_order_irrelevant` and the canonicalisation of hash segments in the harness the choice is unobservable). -/
theorem wf_hash_fromInserts (xs : List (String × Val)) : WF (.hash (fromInserts compare xs)) := by
  simp only [WF]; exact (sorted_fromInserts (cmp := compare) xs).nodup_keys

/-- A frame opened by `open_root`/`open_push` over a well-formed current frame is a well-formed `frame` node — so
    `get_eq_first`, `unique_nodup` and `dedup_first` apply to every ambient snapshot, whatever was pushed. -/
theorem wf_frame_pushInto {cur : List (String × Val)} (h : Sorted compare cur) (pushed : List (String × Val)) :
    Sorted compare (pushInto cur pushed) ∧ WF (.frame (pushInto cur pushed)) := by
  have hs : Sorted compare (pushInto cur pushed) := sorted_foldl_insertOverwrite pushed h
  exact ⟨hs, by simpa [WF] using hs.nodup_keys⟩

/-- What a snapshot keeps per key: the value of the LAST pair the pushed props enumerate for
    it (`HashMap::insert` overwrites — unlike every other collection, where the first wins), else the value the
    enclosing frame had. -/
theorem frame_lookup {cur : List (String × Val)} (h : Sorted compare cur) (pushed : List (String × Val)) (q : String) :
    lookupFirst q (pushInto cur pushed) = (lookupFirst q pushed.reverse).or (lookupFirst q cur) := by
  unfold pushInto
  induction pushed generalizing cur with
  | nil => simp
  | cons a xs ih =>
    obtain ⟨k, v⟩ := a
    rw [List.foldl_cons, ih (sorted_insertOverwrite h k v), lookupFirst_insertOverwrite,
      List.reverse_cons, lookupFirst_append, lookupFirst_cons]
    cases lookupFirst q xs.reverse <;> by_cases e : k = q <;> simp [e]

/-- **A snapshot loses no key** and invents none. -/
theorem frame_keys {cur : List (String × Val)} (h : Sorted compare cur) (pushed : List (String × Val)) (q : String) :
    q ∈ keys (pushInto cur pushed) ↔ q ∈ keys pushed ∨ q ∈ keys cur := by
  have hr : q ∈ keys pushed.reverse ↔ q ∈ keys pushed := by simp [keys]
  rw [← hr, ← lookupFirst_isSome_iff, ← lookupFirst_isSome_iff, ← lookupFirst_isSome_iff, frame_lookup h]
  cases lookupFirst q pushed.reverse <;> simp

theorem insertField_perm : ∀ (m : List (String × Field)) (f : Field) (m' : List (String × Field)),
    insertField m f = some m' → (m'.map Prod.snd).Perm (f :: m.map Prod.snd)
  | [], f, m', h => by simp [insertField] at h; subst h; simp
  | (k, g) :: rest, f, m', h => by
    simp only [insertField] at h
    split at h
    · simp only [Option.map_eq_some_iff] at h
      obtain ⟨r, hr, e⟩ := h
      subst e
      have := insertField_perm rest f r hr
      simp only [List.map_cons]
      exact (List.Perm.cons g this).trans (List.Perm.swap f g _)
    · cases h
    · simp at h; subst h; simp

theorem insertFields_perm : ∀ (fs : List Field) (m m' : List (String × Field)),
    insertFields m fs = some m' → (m'.map Prod.snd).Perm (fs ++ m.map Prod.snd)
  | [], m, m', h => by simp [insertFields] at h; subst h; simp
  | f :: fs, m, m', h => by
    simp only [insertFields, Option.bind_eq_some_iff] at h
    obtain ⟨m1, h1, h2⟩ := h
    have p1 := insertField_perm m f m1 h1
    have p2 := insertFields_perm fs m1 m' h2
    refine p2.trans ?_
    refine (List.Perm.append_left fs p1).trans ?_
    simp only [List.cons_append]
    exact List.perm_middle

/-- The final names of the fields that reach the runtime array with a value. -/
def liveKeys (fields : List Field) : List String :=
  fields.filterMap fun f => if f.cfg then f.val.map (fun _ => f.key) else none

/-- The `(final name, value)` pairs of the fields that reach the runtime array with a value. -/
def livePairs (fields : List Field) : List (String × Val) :=
  fields.filterMap fun f => if f.cfg then f.val.map (fun v => (f.key, v)) else none

theorem macroEnum_map (m : List (String × Field)) :
    macroEnum ((m.filter (·.2.cfg)).map fun (x : String × Field) => (x.2.key, x.2.val))
      = livePairs (m.map Prod.snd) := by
  induction m with
  | nil => rfl
  | cons a m ih =>
    obtain ⟨k, f⟩ := a
    unfold livePairs at ih ⊢
    by_cases hc : f.cfg
    · cases hv : f.val with
      | none => simp [hc, hv, macroEnum, ih]
      | some v => simp [hc, hv, macroEnum, ih]
    · simp [hc, ih]

theorem keys_livePairs (fields : List Field) : keys (livePairs fields) = liveKeys fields := by
  simp only [keys, livePairs, liveKeys, List.map_filterMap]
  congr 1
  funext f
  split <;> simp [Option.map_map, Function.comp_def]

/-- **Nothing lost, nothing invented.** The enumeration of a macro-built collection is a permutation (identifier
    order) of the `(final name, value)` pairs of the call site's enabled, value-carrying fields. -/
theorem expand_enum_perm (fields : List Field) (arr : List (String × Option Val)) (he : expand fields = some arr) :
    (enum (.macro arr)).Perm (livePairs fields) := by
  simp only [expand, Option.map_eq_some_iff] at he
  obtain ⟨m, hm, e⟩ := he
  subst e
  simp only [enum]
  rw [macroEnum_map]
  have hp := insertFields_perm fields [] m hm
  simp only [List.map_nil, List.append_nil] at hp
  unfold livePairs
  exact hp.filterMap _

/-- **Generated call sites.** Whenever the macro accepts a field list, the runtime array it builds is well formed
    as soon as the final names of the enabled, value-carrying fields are distinct — so `get_eq_first`,
    `unique_nodup` and `dedup_first` apply to every such call site. -/
theorem expand_wf (fields : List Field) (arr : List (String × Option Val)) (he : expand fields = some arr)
    (hd : (liveKeys fields).Nodup) : WF (.macro arr) := by
  have hp := expand_enum_perm fields arr he
  rw [← keys_livePairs] at hd
  exact ((hp.map Prod.fst).nodup_iff).2 hd

theorem liveKeys_sublist (fields : List Field) : (liveKeys fields).Sublist (fields.map (·.key)) := by
  refine filterMap_sublist_map _ _ (fun f b h => ?_) fields
  split at h <;> simp at h
  exact h.2.symm

/-- The property's own wording: all final names distinct. -/
theorem expand_wf_of_distinct (fields : List Field) (arr : List (String × Option Val))
    (he : expand fields = some arr) (hd : (fields.map (·.key)).Nodup) : WF (.macro arr) :=
  expand_wf fields arr he (hd.sublist (liveKeys_sublist fields))

/-- **Call sites, end to end.** For every field list the macro accepts whose final names are distinct: looking a
    name up in the collection the call site builds returns the value of the field carrying that final name (first-
    wins lookup in the call site's own field list, whatever order the macro sorted the array into), the collection's
    uniqueness claim is honest, and lookup agrees with its enumeration. -/
theorem macro_site_coherent (fields : List Field) (arr : List (String × Option Val)) (he : expand fields = some arr)
    (hd : (fields.map (·.key)).Nodup) (k : String) :
    get (.macro arr) k = lookupFirst k (livePairs fields) ∧
    get (.macro arr) k = lookupFirst k (enum (.macro arr)) ∧
    (keys (enum (.macro arr))).Nodup := by
  have hwf := expand_wf_of_distinct fields arr he hd
  have hn := unique_nodup (.macro arr) hwf rfl
  refine ⟨?_, macro_get_eq_first arr k, hn⟩
  rw [macro_get_eq_first]
  exact lookupFirst_perm (expand_enum_perm fields arr he) hn k

/-- **Interpolation.** A hole of a rendered template shows the first enumerated value of its key, and the
    `{label}` placeholder iff the enumeration never yields the key. -/
theorem render_hole (p : P) (h : WF p) (l : String) :
    render [.hole l] p = match lookupFirst l (enum p) with
      | some v => v.display
      | none => "{" ++ l ++ "}" := by
  simp only [render, List.map_cons, List.map_nil, get_eq_first p l h]
  cases lookupFirst l (enum p) <;> simp [String.join]

/-- **Defect D1 (pre-fix code).** `emit::props!{ #[emit::key("z")] a: 1, b: 2, c: 3 }` builds the array
    `[("z",1), ("b",2), ("c",3)]` (identifier order a, b, c). The binary search the unfixed `get` ran misses `"z"`
    although the enumeration yields it. -/
theorem macro_rename_breaks_lookup :
    let arr := [("z", some (Val.int 1)), ("b", some (Val.int 2)), ("c", some (Val.int 3))]
    expand [⟨"a", "z", true, some (.int 1)⟩, ⟨"b", "b", true, some (.int 2)⟩, ⟨"c", "c", true, some (.int 3)⟩] = some arr ∧
    macroGetBinarySearch arr "z" = none ∧
    lookupFirst "z" (enum (.macro arr)) = some (.int 1) ∧
    get (.macro arr) "z" = some (.int 1) := by
  decide

/-- a tree mixing maps, nesting, duplicates, a de-duplicated view and a macro array -/
def sample : P :=
  .and (.slice [.pair "a" (.int 1), .ref (.btree [("a", .int 2), ("b", .int 3)]), .optSome (.pair "" (.str "x"))])
       (.dedup (.arr [.hash [("é", .int 4), ("a", .int 5)], .erased (.macro [("z", some (.int 6)), ("b", none)])]))

example : WF sample := by
  simp [sample, WF, WFList, Sorted, macroEnum]; decide
example : get sample "a" = some (.int 1) ∧ get sample "b" = some (.int 3) ∧ get sample "z" = some (.int 6) := by decide +kernel
example : WF (.dedup sample) ∧ isUnique (.dedup sample) = true := by
  simp [sample, WF, WFList, Sorted, macroEnum, isUnique]; decide
def sampleSite : List Field :=
  [⟨"a", "z", true, some (.int 1)⟩, ⟨"b", "b", false, some (.int 2)⟩, ⟨"c", "c", true, none⟩]
example : (sampleSite.map (·.key)).Nodup ∧ expand sampleSite = some [("z", some (.int 1)), ("c", none)] := by
  decide +kernel
example : Sorted compare (pushInto [] [("b", Val.int 1), ("a", .int 2), ("b", .int 3)]) ∧
    pushInto [] [("b", Val.int 1), ("a", .int 2), ("b", .int 3)] = [("a", .int 2), ("b", .int 3)] := by
  refine ⟨(wf_frame_pushInto sorted_nil _).1, by decide⟩
example : enum sample = [("a", .int 1), ("a", .int 2), ("b", .int 3), ("", .str "x"), ("a", .int 5), ("z", .int 6), ("é", .int 4)] := by
  decide +kernel
example : (liveKeys [⟨"a", "z", true, some (.int 1)⟩, ⟨"b", "b", false, some (.int 2)⟩, ⟨"c", "c", true, none⟩]).Nodup := by
  decide +kernel

end EmitModel.C02
