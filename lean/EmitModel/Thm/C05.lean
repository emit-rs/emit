/-
  Thm/C05.lean — property C05: each enabled, started span completes exactly once; disabled spans never do.
  Property theorems about Model/SpanGuard.lean (the functions the driver executes); the lemmas they rest on stand here
  too (`step_cases`, the step invariant, and `run_calls`, the same along an operation list).
-/
import EmitModel.Model.SpanGuard

namespace EmitModel.C05
open EmitModel.SpanGuard

def calls (g : Guard) (clk : Clock) (ops : List Op) : List Call := (run g clk ops).1

/-- A guard that can still complete: started-or-initial with data and a completion. -/
def Live (g : Guard) : Prop := g.st ≠ .completed ∧ g.data.isSome ∧ g.completion.isSome

theorem calls_cons (g : Guard) (clk : Clock) (op : Op) (rest : List Op) :
    calls g clk (op :: rest) = (step g clk op).calls ++ calls (step g clk op).guard (step g clk op).clock rest := rfl

def isBuilder : Op → Bool
  | .complete | .completeWith _ | .drop => false
  | _ => true

def isTerminal (o : Op) : Bool := !isBuilder o

/-- The data a guard carries after a list of builder operations. -/
def applyData (d : Data) : List Op → Data
  | [] => d
  | .withMdl m :: rest => applyData { d with mdl := m } rest
  | .withName n :: rest => applyData { d with name := n } rest
  | .withProps ps :: rest => applyData { d with props := ps } rest
  | .mapProps extra :: rest => applyData { d with props := extra ++ d.props } rest
  | _ :: rest => applyData d rest

/-- The completion an enabled guard holds after a list of builder operations. -/
def applyCompletion (c : Nat) : List Op → Nat
  | [] => c
  | .withCompletion c' :: rest => applyCompletion c' rest
  | _ :: rest => applyCompletion c rest

/-- The state after a list of builder operations, and the clock left. -/
def applyStart : St → Clock → List Op → St × Clock
  | st, clk, [] => (st, clk)
  | .initial, clk, .start :: rest => applyStart (.started (now clk).1) (now clk).2 rest
  | st, clk, _ :: rest => applyStart st clk rest

def terminalWho (c : Nat) : Op → Nat
  | .completeWith c' => c'
  | _ => c

/-- No operation list makes a call on such a guard. -/
def Inert (g : Guard) : Prop := g.st = .completed ∨ g.data = none ∨ g.completion = none

/-- Completing such a guard now makes no call (it may still be started later). -/
def Quiet (g : Guard) : Prop := (∀ s, g.st ≠ .started s) ∨ g.data = none ∨ g.completion = none

theorem Inert.quiet {g : Guard} (h : Inert g) : Quiet g := h.imp_left fun h s e => by simp [h] at e

theorem inert_movedFrom : Inert movedFrom := Or.inl rfl

theorem completeCore_quiet {g : Guard} (h : Quiet g) (clk : Clock) (who : Nat → Nat) :
    completeCore g clk who = (false, movedFrom, [], clk) := by
  unfold completeCore
  rcases h with h | h | h <;> split <;> simp_all

theorem completeCore_started (s : Option Ts) (d : Data) (c : Nat) (clk : Clock) (who : Nat → Nat) :
    completeCore ⟨.started s, some d, some c⟩ clk who =
      (true, movedFrom, [⟨who c, d.mdl, d.name, d.props, timerExtent s (now clk).1⟩], (now clk).2) := rfl

theorem quiet_or_started (g : Guard) : Quiet g ∨ ∃ s d c, g = ⟨.started s, some d, some c⟩ := by
  obtain ⟨st, d, c⟩ := g
  cases st <;> cases d <;> cases c <;> simp [Quiet]

@[simp] theorem dropCalls_movedFrom (clk : Clock) : dropCalls movedFrom clk = ([], clk) := rfl

theorem step_terminal (g : Guard) (clk : Clock) (t : Op) (ht : isTerminal t = true) :
    (step g clk t).guard = movedFrom ∧
    (step g clk t).calls = (completeCore g clk fun c => terminalWho c t).2.2.1 ∧
    (step g clk t).clock = (completeCore g clk fun c => terminalWho c t).2.2.2 := by
  have hm : ∀ who, (completeCore g clk who).2.1 = movedFrom := fun who => by unfold completeCore; split <;> rfl
  cases t with
  | complete | completeWith | drop => simp [step, hm, terminalWho, show (id : Nat → Nat) = fun c => c from rfl]
  | _ => cases ht

theorem step_builder (g : Guard) (clk : Clock) (o : Op) (ho : isBuilder o = true) :
    (step g clk o).calls = [] ∧ ((step g clk o).guard.data = none ↔ g.data = none) ∧
    ((step g clk o).guard.completion = none ↔ g.completion = none) ∧
    ((step g clk o).guard.st = g.st ∨ o = .start ∧ g.st = .initial) := by
  cases o with
  | complete | completeWith | drop => cases ho
  | start => simp only [step]; split <;> simp_all
  | _ => simp [step]

/-- The step invariant behind every theorem below. -/
theorem step_cases (g : Guard) (clk : Clock) (op : Op) :
    ((step g clk op).calls = [] ∧ (Inert g → Inert (step g clk op).guard) ∧
      (op ≠ .start → Quiet g → Quiet (step g clk op).guard)) ∨
    ((∃ c, (step g clk op).calls = [c]) ∧ (step g clk op).guard = movedFrom ∧ ¬ Quiet g) := by
  cases hb : isBuilder op with
  | true =>
    obtain ⟨h1, h2, h3, h4⟩ := step_builder g clk op hb
    refine .inl ⟨h1, Or.imp ?_ (Or.imp h2.2 h3.2), fun hs => Or.imp ?_ (Or.imp h2.2 h3.2)⟩
    all_goals intro h; rcases h4 with h4 | h4 <;> simp_all
  | false =>
    obtain ⟨h1, h2, _⟩ := step_terminal g clk op (by simp [isTerminal, hb])
    rcases quiet_or_started g with h | ⟨s, d, c, rfl⟩
    · exact .inl ⟨by rw [h2, completeCore_quiet h], fun _ => h1 ▸ inert_movedFrom, fun _ _ => h1 ▸ inert_movedFrom.quiet⟩
    · exact .inr ⟨⟨_, by rw [h2, completeCore_started]⟩, h1, by simp [Quiet]⟩

theorem run_calls (g : Guard) (clk : Clock) (ops : List Op) :
    (calls g clk ops).length ≤ 1 ∧ (Inert g → calls g clk ops = []) ∧
    (Quiet g → Op.start ∉ ops → calls g clk ops = []) := by
  induction ops generalizing g clk with
  | nil => simp [calls, run]
  | cons op rest ih =>
    obtain ⟨ih1, ih2, ih3⟩ := ih (step g clk op).guard (step g clk op).clock
    rw [calls_cons]
    rcases step_cases g clk op with ⟨h0, hi, hq⟩ | ⟨⟨c, hc⟩, hm, hnq⟩
    · rw [h0]
      refine ⟨ih1, fun h => ih2 (hi h), fun h hs => ?_⟩
      exact ih3 (hq (fun e => hs (by simp [e])) h) fun hr => hs (by simp [hr])
    · rw [hc, ih2 (hm ▸ inert_movedFrom)]
      exact ⟨by simp, fun h => absurd h.quiet hnq, fun h => absurd h hnq⟩

/-- **At most once.** For every guard state, clock script and operation list — any order, any multiplicity —
    at most one completion call is ever made. -/
theorem at_most_once (g : Guard) (clk : Clock) (ops : List Op) : (calls g clk ops).length ≤ 1 :=
  (run_calls g clk ops).1

/-- **Disabled never.** A guard whose span was rejected by the filter (`completion = None`) makes no completion
    call under any operation list — in particular `with_completion` does not re-enable it. -/
theorem disabled_never (c : Nat) (d : Data) (clk : Clock) (ops : List Op) :
    calls (new false c d) clk ops = [] :=
  (run_calls _ clk ops).2.1 (.inr (.inr rfl))

/-- `is_enabled` stays false on a disabled guard whatever operation is applied. -/
theorem disabled_stays_disabled (g : Guard) (h : g.completion = none) (clk : Clock) (op : Op) :
    (step g clk op).guard.completion = none := by
  cases hb : isBuilder op with
  | true => exact (step_builder g clk op hb).2.2.1.2 h
  | false => rw [(step_terminal g clk op (by simp [isTerminal, hb])).1]; rfl

/-- **Never started, never completes**: without a `start` in the list an initial guard makes no call. -/
theorem unstarted_never (enabled : Bool) (c : Nat) (d : Data) (clk : Clock) (ops : List Op)
    (h : Op.start ∉ ops) : calls (new enabled c d) clk ops = [] :=
  (run_calls _ clk ops).2.2 (.inl fun _ => nofun) h

theorem run_builders (st : St) (d : Data) (c : Nat) (clk : Clock) (bs : List Op)
    (hb : ∀ o ∈ bs, isBuilder o = true) (rest : List Op) :
    run { st := st, data := some d, completion := some c } clk (bs ++ rest) =
      run { st := (applyStart st clk bs).1, data := some (applyData d bs), completion := some (applyCompletion c bs) }
        (applyStart st clk bs).2 rest := by
  induction bs generalizing st d c clk with
  | nil => rfl
  | cons o bs ih =>
    have hb' : ∀ o ∈ bs, isBuilder o = true := fun o ho => hb o (by simp [ho])
    have ho := hb o (by simp)
    cases o with
    | complete | completeWith | drop => cases ho
    | _ => cases st <;> simp [run, step, applyStart, applyData, applyCompletion, ih _ _ _ _ hb']

theorem applyStart_of_mem (clk : Clock) (bs : List Op) (h : Op.start ∈ bs) :
    applyStart .initial clk bs = (.started (now clk).1, (now clk).2) := by
  have stay : ∀ (s : Option Ts) (c : Clock) (l : List Op), applyStart (.started s) c l = (.started s, c) := by
    intro s c l
    induction l with
    | nil => rfl
    | cons a l ihl => cases a <;> simp [applyStart, ihl]
  induction bs with
  | nil => simp at h
  | cons o bs ih =>
    cases o with
    | start => simp [applyStart, stay]
    | _ => simp only [applyStart]; exact ih (by simpa using h)

/-- **Exactly once, with identity and extent.** An enabled guard that is started somewhere in an arbitrary
    sequence of builder operations and then ends by drop, `complete` or `complete_with` makes exactly one
    completion call; it carries the module/name/props after the last modification, goes to the last completion
    set (or the handler given to `complete_with`), and its extent is the range from the clock reading taken by
    the first `start` to the reading taken at completion — `None` when either reading is unavailable, and a
    (backwards) range when the second is smaller. Anything after the terminal adds no call. -/
theorem enabled_started_exactly_once (c : Nat) (d : Data) (clk : Clock) (bs : List Op) (t : Op) (after : List Op)
    (hb : ∀ o ∈ bs, isBuilder o = true) (hs : Op.start ∈ bs) (ht : isTerminal t = true) :
    ∃ r clk', applyStart .initial clk bs = (.started r, clk') ∧
      calls (new true c d) clk (bs ++ t :: after) =
        [{ by_ := terminalWho (applyCompletion c bs) t, mdl := (applyData d bs).mdl, name := (applyData d bs).name,
           props := (applyData d bs).props, extent := timerExtent r (now clk').1 }] := by
  refine ⟨_, _, applyStart_of_mem clk bs hs, ?_⟩
  obtain ⟨h1, h2, _⟩ := step_terminal ⟨.started (now clk).1, some (applyData d bs), some (applyCompletion c bs)⟩
    (now clk).2 t ht
  simp only [calls, new, if_true]
  rw [run_builders _ _ _ _ _ hb, applyStart_of_mem clk bs hs]
  simp only [run, h1, h2, completeCore_started]
  exact congrArg _ ((run_calls movedFrom _ after).2.1 inert_movedFrom)

/-- **Extent = start reading .. completion reading**, stated on the clock script: with readings `a` then `b`
    the completed span has extent `range a..b` (also when `b < a`), and none if either is unavailable. -/
theorem extent_is_start_to_end (c : Nat) (d : Data) (a b : Option Ts) (clk : Clock) (bs : List Op) (t : Op)
    (hb : ∀ o ∈ bs, isBuilder o = true) (hs : Op.start ∈ bs) (ht : isTerminal t = true) :
    (calls (new true c d) (a :: b :: clk) (bs ++ [t])).map Call.extent = [timerExtent a b] := by
  obtain ⟨r, clk', h1, h2⟩ := enabled_started_exactly_once c d (a :: b :: clk) bs t [] hb hs ht
  rw [applyStart_of_mem _ bs hs] at h1
  cases h1
  simp [h2, now]

/-- The moved-from guard left behind by every consuming method makes no call when it is dropped. -/
theorem moved_from_inert (clk : Clock) (ops : List Op) : calls movedFrom clk ops = [] :=
  (run_calls _ clk ops).2.1 inert_movedFrom

private def d0 : Data := ⟨"m", "n", [("k", "v")]⟩

example : calls (new true 7 d0) [some 5, some 3] [.withName "x", .start, .withCompletion 9, .mapProps [("a", "b")], .drop]
    = [⟨9, "m", "x", [("a", "b"), ("k", "v")], some (5, 3)⟩] := by decide +kernel
example : calls (new false 7 d0) [some 5, some 9] [.start, .withCompletion 9, .complete, .drop] = [] := by decide +kernel
example : calls (new true 7 d0) [some 5] [.start, .start, .completeWith 4, .drop, .complete] = [⟨4, "m", "n", [("k", "v")], none⟩] := by decide +kernel

/-- **Defect D2 (before the fix)**: with `completion: Some(completion)` a filtered-out guard became enabled. -/
theorem unfixed_with_completion_reenables (c c' : Nat) (d : Data) :
    (stepUnfixedWithCompletion (new false c d) c').completion = some c' := rfl

theorem compCode_roundtrip (n : Nat) (a : Adapter) : compId (compCode n a) = n ∧ compAdapter (compCode n a) = a := by
  cases a <;> simp [compId, compCode, compAdapter, Adapter.code, Adapter.ofCode] <;> omega

/-- one `Completion::complete` call reaches the recorder at most once, and exactly once unless the completion
    is `Empty` -/
theorem deliver_length (c : Call) :
    (deliver c).length = if compAdapter c.by_ = .empty then 0 else 1 := by
  unfold deliver
  cases compAdapter c.by_ <;> simp

/-- **adapters_transparent.** `&C`, `from_fn`, `dyn ErasedCompletion`, `dyn ErasedCompletion + Send + Sync`
    (and no adapter at all) hand the recorder the very span the guard completed with: module, name, props,
    extent. (One arm of `deliver` in the model; that each Rust adapter forwards is the stream's to check.) -/
theorem adapters_transparent (n : Nat) (a : Adapter) (h : a ≠ .empty ∧ a ≠ .fromEmitter) (c : Call)
    (hc : c.by_ = compCode n a) : deliver c = [.span n { c with by_ := n }] := by
  have := compCode_roundtrip n a
  unfold deliver
  rw [hc, this.1, this.2]
  cases a <;> simp_all

/-- `from_emitter`: the recorder (an emitter) receives the span as an event — same module, the span's own extent
    (no clock is consulted), `evt_kind` and `span_name` in front of the span's props, and nothing ambient. -/
theorem from_emitter_delivers_span_event (n : Nat) (c : Call) (hc : c.by_ = compCode n .fromEmitter) :
    deliver c = [.event n ⟨c.mdl, "{span_name} completed", rangeExt c.extent,
      [("evt_kind", "span"), ("span_name", c.name)] ++ c.props⟩] := by
  have := compCode_roundtrip n .fromEmitter
  unfold deliver
  rw [hc, this.1, this.2]
  simp [spanEvent]

/-- **completion_adapters_at_most_once.** Whatever the operation list, the clock and the adapters the
    completions sit behind: the recorders receive at most one delivery in total. -/
theorem completion_adapters_at_most_once (g : Guard) (clk : Clock) (ops : List Op) :
    ((calls g clk ops).flatMap deliver).length ≤ 1 := by
  have h := at_most_once g clk ops
  match hc : calls g clk ops, h with
  | [], _ => simp
  | [c], _ => simp [deliver_length]; split <;> omega

/-- **completion_adapters_exactly_once.** An enabled guard that was started and reaches a terminal delivers
    exactly once through every adapter — recorder and adapter being those of the completion in force at the
    terminal (the last `with_completion`, or the one given to `complete_with`) — and not at all through `Empty`. -/
theorem completion_adapters_exactly_once (c : Nat) (d : Data) (clk : Clock) (bs : List Op) (t : Op) (after : List Op)
    (hb : ∀ o ∈ bs, isBuilder o = true) (hs : Op.start ∈ bs) (ht : isTerminal t = true) :
    ((calls (new true c d) clk (bs ++ t :: after)).flatMap deliver).length =
      if compAdapter (terminalWho (applyCompletion c bs) t) = .empty then 0 else 1 := by
  obtain ⟨r, clk', _, h⟩ := enabled_started_exactly_once c d clk bs t after hb hs ht
  rw [h]
  simp [deliver_length]

/-- **clock_holders_transparent.** Every holder but `Option::None` leaves the clock script, hence every
    call, extent and returned value of every theorem above, as it is. (One arm of `ClockHolder.script` in the model;
    that each Rust holder forwards is the stream's to check.) -/
theorem clock_holders_transparent (h : ClockHolder) (hne : h ≠ .none_) (clk : Clock) : h.script clk = clk := by
  cases h <;> simp_all [ClockHolder.script]

theorem completeCore_nil_clock (g : Guard) (who : Nat → Nat) :
    (completeCore g [] who).2.2.2 = [] ∧ ∀ c ∈ (completeCore g [] who).2.2.1, c.extent = none := by
  rcases quiet_or_started g with h | ⟨s, d, c, rfl⟩
  · simp [completeCore_quiet h]
  · simp [completeCore_started, now, timerExtent]

/-- `Option::None` as the clock: nothing is ever read, so no completed span has an extent. -/
theorem clock_none_no_extent (g : Guard) (clk : Clock) (ops : List Op) :
    ∀ c ∈ calls g (ClockHolder.none_.script clk) ops, c.extent = none := by
  simp only [ClockHolder.script]
  induction ops generalizing g with
  | nil => simp [calls, run]
  | cons op rest ih =>
    have hstep : (step g [] op).clock = [] ∧ ∀ c ∈ (step g [] op).calls, c.extent = none := by
      cases hb : isBuilder op with
      | true =>
        refine ⟨?_, by simp [(step_builder g [] op hb).1]⟩
        cases op with
        | start => simp only [step]; split <;> rfl
        | _ => first | rfl | cases hb
      | false =>
        obtain ⟨_, h2, h3⟩ := step_terminal g [] op (by simp [isTerminal, hb])
        rw [h2, h3]
        exact completeCore_nil_clock g _
    intro c hc
    rw [calls_cons, hstep.1] at hc
    rcases List.mem_append.1 hc with h | h
    · exact hstep.2 c h
    · exact ih _ c h

def lookupFirst (k : Str) : Props → Option Str
  | [] => none
  | (k', v) :: rest => if k' == k then some v else lookupFirst k rest

/-- Panic unwinding adds the error and the panic level (default Error), overriding same-named span props. -/
theorem default_panic_adds_err_lvl (cfg : DefaultCfg) (ambient : Props) (c : Call) :
    lookupFirst "lvl" (defaultComplete cfg true ambient c).props = some (cfg.panicLvl.getD "error") ∧
    lookupFirst "err" (defaultComplete cfg true ambient c).props = some "panicked" := by
  simp [defaultComplete, lookupFirst]

/-- A normal completion carries the configured level if any, the span kind, name, extent and module, followed
    by the span's props and then the ambient props (which is where the ids come from inside the frame). -/
theorem default_normal_event (cfg : DefaultCfg) (ambient : Props) (c : Call) :
    (defaultComplete cfg false ambient c).props =
      (match cfg.lvl with | some l => [("lvl", l)] | none => []) ++
        [("evt_kind", "span"), ("span_name", c.name)] ++ c.props ++ ambient ∧
    (defaultComplete cfg false ambient c).extent = rangeExt c.extent ∧
    (defaultComplete cfg false ambient c).mdl = c.mdl := by
  refine ⟨?_, rfl, rfl⟩
  simp only [defaultComplete]
  cases cfg.lvl <;> rfl

/-- The level and error the property promises for each exit path of a macro-instrumented span. -/
def expectedLvl (c : MacroCfg) : Exit → Option Str
  | .panic => some (c.panicLvl.getD "error")
  | .ok => if c.useResult then c.okLvl.or c.lvlDefault else c.lvlDefault
  | .err => if c.useResult then some ((c.errLvl.or c.lvlDefault).getD "error") else c.lvlDefault

def expectedErr (c : MacroCfg) (errText : Str) : Exit → Option Str
  | .panic => some "panicked"
  | .ok => none
  | .err => if c.useResult then some errText else none

def macroWho (c : MacroCfg) : Exit → Nat
  | .panic => compDefault
  | .ok => if c.useResult then compOk else compDefault
  | .err => if c.useResult then compErr else compDefault

theorem macroProgram_eq (c : MacroCfg) (exit : Exit) :
    ∃ t, isTerminal t = true ∧ macroProgram c exit = [.start, t] ∧ terminalWho compDefault t = macroWho c exit := by
  cases exit <;> simp only [macroProgram, macroWho] <;> (repeat' split) <;> exact ⟨_, rfl, rfl, rfl⟩

theorem run_start_terminal (c : Nat) (d : Data) (a b : Option Ts) (clk : Clock) (t : Op) (ht : isTerminal t = true) :
    ∃ rets, run (new true c d) (a :: b :: clk) [.start, t] =
      ([⟨terminalWho c t, d.mdl, d.name, d.props, timerExtent a b⟩], rets, movedFrom, clk) := by
  cases t with
  | complete | completeWith | drop => exact ⟨_, rfl⟩
  | _ => cases ht

theorem macroEvent_spec (c : MacroCfg) (exit : Exit) (tpl errText : Str) (ambient : Props) (fallback : Option Ts)
    (call : Call) (hby : call.by_ = macroWho c exit)
    (hamb : lookupFirst "lvl" (call.props ++ ambient) = none ∧ lookupFirst "err" (call.props ++ ambient) = none) :
    let e := macroEvent c exit tpl errText ambient fallback call
    e.mdl = call.mdl ∧ e.tpl = tpl ∧ (∀ x y, call.extent = some (x, y) → e.extent = some (.range x y)) ∧
    lookupFirst "lvl" e.props = expectedLvl c exit ∧ lookupFirst "err" e.props = expectedErr c errText exit ∧
    lookupFirst "span_name" e.props = some call.name ∧ lookupFirst "evt_kind" e.props = some "span" := by
  dsimp only
  obtain ⟨h1, h2⟩ := hamb
  -- module, template and extent do not depend on the level properties: only the two outer `if`s are split
  have hmt : (macroEvent c exit tpl errText ambient fallback call).mdl = call.mdl ∧
      (macroEvent c exit tpl errText ambient fallback call).tpl = tpl := by
    unfold macroEvent
    split
    · exact ⟨rfl, rfl⟩
    · split <;> exact ⟨rfl, rfl⟩
  refine ⟨hmt.1, hmt.2, fun x y h => ?_, ?_⟩
  · unfold macroEvent
    split
    · simp [h, rangeExt]
    · split <;> simp [h, rangeExt, defaultComplete]
  · cases exit <;> cases hr : c.useResult <;>
      simp [macroEvent, hby, macroWho, hr, compDefault, compOk, compErr, defaultComplete, lookupFirst, expectedLvl,
        expectedErr] <;>
      split <;> simp [lookupFirst, *]

/-- **Macro forms complete exactly once on every exit path** — fall-through, early return, error propagation
    and panic unwinding — when enabled, never when filtered out; the single event carries the level and error
    the attributes ask for (`ok_lvl`/`err_lvl`/`panic_lvl`/default level, `err` mapper), the span's name and
    module, kind span, and the extent from the start reading to the completion reading. -/
theorem macro_exactly_once (c : MacroCfg) (exit : Exit) (a b : Option Ts) (clk : Clock)
    (mdl name tpl errText : Str) (ambient : Props)
    (hamb : lookupFirst "lvl" ambient = none ∧ lookupFirst "err" ambient = none) :
    macroRun c false exit (a :: b :: clk) mdl name tpl errText ambient = [] ∧
    ∃ e, macroRun c true exit (a :: b :: clk) mdl name tpl errText ambient = [e] ∧
      e.mdl = mdl ∧ e.tpl = tpl ∧ (∀ x y, a = some x → b = some y → e.extent = some (.range x y)) ∧
      lookupFirst "lvl" e.props = expectedLvl c exit ∧
      lookupFirst "err" e.props = expectedErr c errText exit ∧
      lookupFirst "span_name" e.props = some name ∧ lookupFirst "evt_kind" e.props = some "span" := by
  obtain ⟨t, ht, hp, hw⟩ := macroProgram_eq c exit
  obtain ⟨m1, m2, m3, m4⟩ := macroEvent_spec c exit tpl errText ambient (now clk).1
    ⟨macroWho c exit, mdl, name, [], timerExtent a b⟩ rfl hamb
  refine ⟨?_, _, ?_, m1, m2, fun x y hx hy => m3 x y (by rw [hx, hy]; rfl), m4⟩
  · simp [macroRun, show (run _ _ _).1 = _ from disabled_never compDefault ⟨mdl, name, []⟩ (a :: b :: clk) (macroProgram c exit)]
  · obtain ⟨rets, hr⟩ := run_start_terminal compDefault ⟨mdl, name, []⟩ a b clk t ht
    simp only [macroRun, hp, hr, List.map_cons, List.map_nil, hw]

example : macroRun ⟨some "info", none, some "warn", false, false, none, false⟩ true .err [some 1, some 4] "m" "n" "t" "boom" []
    = [⟨"m", "t", some (.range 1 4), [("lvl", "warn"), ("err", "boom"), ("evt_kind", "span"), ("span_name", "n")]⟩] := by decide +kernel

end EmitModel.C05
