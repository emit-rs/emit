/-
  Thm/C20.lean — property C20: a runtime slot is initialised at most once and is inert before that.
  All theorems quantify over every label list = every interleaving of any number of initialisers, emitters
  and observers, given that `OnceLock::set`/`get` are linearisable (trusted, see props/C20.json).
-/
import EmitModel.Model.Slot

namespace EmitModel.C20
open EmitModel.Slot

def final (ls : List Label) : State := (run init0 ls).1
def winners (s : State) : List Nat := (s.inits.filter (·.2)).map (·.1)

/-- The invariant tying the ghost history to the cell. -/
structure Inv (s : State) : Prop where
  winners_slot : winners s = s.slot.toList
  received_winner : ∀ p ∈ s.received, s.slot = some p.1
  none_fresh : s.slot = none → s.received = [] ∧ ∀ p ∈ s.inits, p.2 = false

theorem inv_init : Inv init0 := ⟨rfl, by simp [init0], by simp [init0]⟩

theorem inv_step (s : State) (l : Label) (h : Inv s) : Inv (step s l).1 := by
  obtain ⟨slot, received, inits⟩ := s
  obtain ⟨h1, h2, h3⟩ := h
  cases l with
  | init i =>
    cases slot with
    | none =>
      -- nothing was received while the cell was empty
      cases (h3 rfl).1
      exact ⟨congrArg (i :: ·) h1, nofun, nofun⟩
    | some w => exact ⟨h1, h2, nofun⟩
  | emit e =>
    cases slot with
    | none => exact ⟨h1, h2, h3⟩
    | some w => exact ⟨h1, fun p hp => (List.mem_cons.1 hp).elim (· ▸ rfl) (h2 p), nofun⟩
  | _ => exact ⟨h1, h2, h3⟩

theorem step_keeps (s : State) (l : Label) (w : Nat) (h : s.slot = some w) : (step s l).1.slot = some w := by
  cases l <;> simp [step, h]

theorem run_append (s : State) (a b : List Label) :
    (run s (a ++ b)).1 = (run (run s a).1 b).1 := by
  induction a generalizing s with
  | nil => rfl
  | cons l a ih => simp only [List.cons_append, run]; exact ih _

theorem run_ind {P : State → Prop} (hstep : ∀ s l, P s → P (step s l).1) (s : State) (ls : List Label) (h : P s) :
    P (run s ls).1 := by
  induction ls generalizing s with
  | nil => exact h
  | cons l rest ih => exact ih _ (hstep s l h)

/-- **Exactly one winner.** Under every interleaving at most one `init` reports success, and exactly one if
    any `init` ran at all; every other attempt reports failure (`init_slot` panics for those). -/
theorem at_most_one_winner (ls : List Label) :
    (winners (final ls)).length ≤ 1 ∧
    ((∃ i, Label.init i ∈ ls) → (winners (final ls)).length = 1) := by
  have hinv := run_ind inv_step init0 ls inv_init
  refine ⟨by rw [final, hinv.winners_slot]; cases (run init0 ls).1.slot <;> simp, ?_⟩
  rintro ⟨i, hi⟩
  obtain ⟨a, b, rfl⟩ := List.append_of_mem hi
  -- the init leaves the cell full, and a full cell stays as it is
  obtain ⟨w, hw⟩ : ∃ w, (step (run init0 a).1 (.init i)).1.slot = some w := by
    cases hs : (run init0 a).1.slot <;> simp [step, hs]
  have := run_ind (fun s l => step_keeps s l w) _ b hw
  rw [final, hinv.winners_slot, run_append, run, this]
  rfl

/-- **Losers are never used.** Every event ever delivered went to the emitter of the configuration whose
    `init` succeeded; a configuration whose `init` failed receives nothing, under every interleaving. -/
theorem losers_never_used (ls : List Label) (cfg e : Nat) (h : (cfg, e) ∈ (final ls).received) :
    (final ls).slot = some cfg ∧ winners (final ls) = [cfg] := by
  have hinv := run_ind inv_step init0 ls inv_init
  have := hinv.received_winner (cfg, e) h
  exact ⟨this, by rw [final, hinv.winners_slot, show (run init0 ls).1.slot = _ from this]; rfl⟩

/-- **Once enabled, always the same winner, all five components together.** From any state in which the cell
    holds `w`, every later observation — after any further steps by any threads — reads all five components
    of `w`, `is_enabled` is true and events go to `w`. -/
theorem all_or_nothing (s : State) (w : Nat) (h : s.slot = some w) (ls : List Label) :
    (run s ls).1.slot = some w ∧
    (step (run s ls).1 .observe).2 = .components (some (w, w, w, w, w)) ∧
    (step (run s ls).1 .enabled).2 = .isEnabled true ∧
    ∀ e, (step (run s ls).1 (.emit e)).2 = .emitted (some w) := by
  have key : (run s ls).1.slot = some w := run_ind (fun s l => step_keeps s l w) s ls h
  refine ⟨key, by simp [step, key], by simp [step, key], fun e => by simp [step, key]⟩

theorem run_fixed (P : Out → Prop) (s : State) (ls : List Label) (h : ∀ l ∈ ls, (step s l).1 = s ∧ P (step s l).2) :
    (run s ls).1 = s ∧ ∀ o ∈ (run s ls).2, P o := by
  induction ls with
  | nil => exact ⟨rfl, nofun⟩
  | cons l rest ih =>
    obtain ⟨e, hp⟩ := h l (List.mem_cons_self ..)
    obtain ⟨a, b⟩ := ih fun l hl => h l (List.mem_cons_of_mem _ hl)
    simp only [run, e]
    exact ⟨a, fun o ho => (List.mem_cons.1 ho).elim (· ▸ hp) (b o)⟩

/-- **Inert before initialisation.** While no `init` has run, emitting delivers nothing, flush returns true,
    observers see the empty runtime, `is_enabled` is false, and nothing is recorded anywhere. -/
theorem inert_before (ls : List Label) (h : ∀ i, Label.init i ∉ ls) :
    (final ls).slot = none ∧ (final ls).received = [] ∧
    ∀ o ∈ (run init0 ls).2, o = .emitted none ∨ o = .flushed true ∨ o = .components none ∨ o = .isEnabled false := by
  obtain ⟨e, ho⟩ := run_fixed
      (fun o => o = .emitted none ∨ o = .flushed true ∨ o = .components none ∨ o = .isEnabled false) init0 ls fun l hl => by
    cases l with
    | init i => exact absurd hl (h i)
    | emit e => exact ⟨rfl, .inl rfl⟩
    | flush => exact ⟨rfl, .inr (.inl rfl)⟩
    | observe => exact ⟨rfl, .inr (.inr (.inl rfl))⟩
    | enabled => exact ⟨rfl, .inr (.inr (.inr rfl))⟩
  exact ⟨congrArg State.slot e, congrArg State.received e, ho⟩

example : winners (final [.emit 1, .init 3, .init 4, .emit 2, .init 3]) = [3] := by decide
example : (final [.emit 1, .init 3, .init 4, .emit 2]).received = [(3, 2)] := by decide +kernel

/-- the steps of a two-slot schedule that address slot `k` -/
def only (k : Bool) (ls : List (Bool × Label)) : List Label := (ls.filter fun x => x.1 == k).map (·.2)

/-- **Slots are independent.** Under every schedule over two slots, each slot ends in exactly the state it would
    reach if only the steps addressed to it had been run: losing (or winning) the initialisation of one slot — on
    whatever thread — never affects whether an initialisation of the other succeeds, what it observes or where its
    events go. (So every single-slot theorem above applies to each slot of a process separately.) -/
theorem slots_independent (ls : List (Bool × Label)) (s : State × State) :
    (run2 s ls).1 = ((run s.1 (only false ls)).1, (run s.2 (only true ls)).1) := by
  induction ls generalizing s with
  | nil => rfl
  | cons x rest ih =>
    obtain ⟨k, l⟩ := x
    cases k <;> simp [run2, step2, only, run, ih]

example : ((run2 (init0, init0) [(false, .init 1), (false, .init 2), (true, .init 3), (true, .emit 9)]).1.2).received = [(3, 9)] := by
  decide +kernel

/-! ## The process-global slots through the public front doors -/

def gfinal (ls : List GLabel) : GState := (grun g0 ls).1

/-- The invariant of the global machine: a filter is stored exactly with a winner, a kept guard belongs to the
    winner of the shared slot, and every delivery and every flush went to a slot's winner. -/
structure GInv (s : GState) : Prop where
  sharedF_iff : s.sharedF.isSome = s.shared.slot.isSome
  internalF_iff : s.internalF.isSome = s.internal.slot.isSome
  guards_winner : ∀ g ∈ s.guards, s.shared.slot = some g.1
  delivered_winner : ∀ d ∈ s.delivered, s.shared.slot = some d.cfg ∨ s.internal.slot = some d.cfg
  flushes_winner : ∀ p ∈ s.flushes, s.shared.slot = some p.1
  guards_le_one : s.guards.length ≤ 1

theorem ginv_init : GInv g0 := ⟨rfl, rfl, nofun, nofun, nofun, Nat.zero_le _⟩

/-- What a step of the global machine does, as far as the cells, the guards and the ghost lists go: one constructor
    per kind of step with the successor written out, so that a field the step does not assign is the old one by `rfl`.
    The history inside the two slot machines (`received`, `inits`) is left open: `sh`, `int` with the given `slot`.
    `quiet` is also an initialisation that finds its slot taken and an emit or flush that reaches nobody; `deliver` is
    the four emitting labels; `fillShared` the three initialisers of the shared slot. -/
inductive GStep (s : GState) : GState → Prop
  | quiet (sh int : State) (hsh : sh.slot = s.shared.slot) (hint : int.slot = s.internal.slot) :
      GStep s { s with shared := sh, internal := int }
  | deliver (sh int : State) (hsh : sh.slot = s.shared.slot) (hint : int.slot = s.internal.slot) (d : Delivery)
      (hd : s.shared.slot = some d.cfg ∨ s.internal.slot = some d.cfg) :
      GStep s { s with shared := sh, internal := int, delivered := d :: s.delivered }
  | flush (w t : Nat) (hw : s.shared.slot = some w) : GStep s { s with flushes := (w, t) :: s.flushes }
  | dropGuards : GStep s { s with guards := [], flushes := s.guards ++ s.flushes }
  | fillShared (sh : State) (i : Nat) (f : FSpec) (gs : List (Nat × Nat)) (hs : s.shared.slot = none)
      (hsh : sh.slot = some i) (hgs : gs = s.guards ∨ ∃ t, gs = (i, t) :: s.guards) :
      GStep s { s with shared := sh, sharedF := some f, guards := gs }
  | fillInternal (int : State) (i : Nat) (f : FSpec) (hs : s.internal.slot = none) (hint : int.slot = some i) :
      GStep s { s with internal := int, internalF := some f }

theorem step_emit_slot (s : State) (e : Nat) : (step s (.emit e)).1.slot = s.slot := by
  cases h : s.slot <;> simp [step, h]

theorem throughRuntime_some (slot : State) (flt : Option FSpec) (e : GEvt) (d : Delivery)
    (h : throughRuntime slot flt e = some d) : slot.slot = some d.cfg := by
  unfold throughRuntime at h
  split at h
  · split at h <;> cases h
    assumption
  · cases h

theorem GStep.initShared (s : GState) (i : Nat) (f : FSpec) : GStep s (s.initShared i f).1 := by
  cases hs : s.shared.slot with
  | none => simp only [GState.initShared, step, hs]; exact .fillShared _ i f _ hs rfl (.inl rfl)
  | some w => simp only [GState.initShared, step, hs]; exact .quiet _ _ hs.symm rfl

theorem GStep.initInternal (s : GState) (i : Nat) (f : FSpec) : GStep s (s.initInternal i f).1 := by
  cases hs : s.internal.slot with
  | none => simp only [GState.initInternal, step, hs]; exact .fillInternal _ i f hs rfl
  | some w => simp only [GState.initInternal, step, hs]; exact .quiet _ _ rfl hs.symm

theorem GStep.of_gstep (s : GState) (l : GLabel) : GStep s (gstep s l).1 := by
  cases l with
  | init i f | tryInit i f => exact .initShared s i f
  | initInternal i f | tryInitInternal i f => exact .initInternal s i f
  | initGuard i f t =>
    cases hs : s.shared.slot with
    | none => simp only [gstep, GState.initShared, step, hs, if_true]; exact .fillShared _ i f _ hs rfl (.inr ⟨t, rfl⟩)
    | some w => simp only [gstep, GState.initShared, step, hs]; exact .quiet _ _ hs.symm rfl
  | dropGuard => exact .dropGuards
  | emit e | span e =>
    simp only [gstep]
    split
    · exact .deliver _ _ (step_emit_slot _ _) rfl _ (.inl (throughRuntime_some _ _ _ _ ‹_›))
    · exact .quiet _ _ rfl rfl
  | direct e =>
    simp only [gstep]
    split
    · exact .deliver _ _ (step_emit_slot _ _) rfl ⟨_, e, none, false⟩ (.inl ‹_›)
    · exact .quiet _ _ rfl rfl
  | emitInternal e =>
    simp only [gstep]
    split
    · exact .deliver _ _ rfl (step_emit_slot _ _) _ (.inr (throughRuntime_some _ _ _ _ ‹_›))
    · exact .quiet _ _ rfl rfl
  | flush t =>
    simp only [gstep]
    split
    · exact .flush _ t ‹_›
    · exact .quiet _ _ rfl rfl
  | observe => exact .quiet _ _ rfl rfl

theorem GInv.empty {s : GState} (h : GInv s) (hs : s.shared.slot = none) :
    s.guards = [] ∧ s.flushes = [] ∧ ∀ d ∈ s.delivered, s.internal.slot = some d.cfg := by
  refine ⟨List.eq_nil_iff_forall_not_mem.2 fun g hg => ?_, List.eq_nil_iff_forall_not_mem.2 fun p hp => ?_,
    fun d hd => (h.delivered_winner d hd).resolve_left ?_⟩
  · exact nomatch hs.symm.trans (h.guards_winner g hg)
  · exact nomatch hs.symm.trans (h.flushes_winner p hp)
  · exact fun hd => nomatch hs.symm.trans hd

theorem GInv.step {s s' : GState} (h : GInv s) (hs : GStep s s') : GInv s' := by
  cases hs with
  | quiet sh int hsh hint =>
    exact ⟨hsh ▸ h.sharedF_iff, hint ▸ h.internalF_iff, hsh ▸ h.guards_winner, hsh ▸ hint ▸ h.delivered_winner,
      hsh ▸ h.flushes_winner, h.guards_le_one⟩
  | deliver sh int hsh hint d hd =>
    refine ⟨hsh ▸ h.sharedF_iff, hint ▸ h.internalF_iff, hsh ▸ h.guards_winner, fun d' hd' => ?_, hsh ▸ h.flushes_winner,
      h.guards_le_one⟩
    rcases List.mem_cons.1 hd' with rfl | hd'
    · exact hsh ▸ hint ▸ hd
    · exact hsh ▸ hint ▸ h.delivered_winner d' hd'
  | flush w t hw =>
    refine { h with flushes_winner := fun p hp => ?_ }
    rcases List.mem_cons.1 hp with rfl | hp
    · exact hw
    · exact h.flushes_winner p hp
  | dropGuards =>
    exact { h with
      guards_winner := nofun, guards_le_one := Nat.zero_le _
      flushes_winner := fun p hp => (List.mem_append.1 hp).elim (h.guards_winner p) (h.flushes_winner p) }
  | fillShared sh i f gs hs hsh hgs =>
    obtain ⟨hg, hf, hd⟩ := h.empty hs
    refine { h with
      sharedF_iff := hsh ▸ rfl, delivered_winner := fun d hd' => .inr (hd d hd'), flushes_winner := hf ▸ nofun
      guards_winner := ?_, guards_le_one := ?_ }
    · rcases hgs with rfl | ⟨t, rfl⟩ <;> simp [hg, hsh]
    · rcases hgs with rfl | ⟨t, rfl⟩ <;> simp [hg]
  | fillInternal int i f hs hint =>
    refine { h with internalF_iff := hint ▸ rfl, delivered_winner := fun d hd => .inl ?_ }
    exact (h.delivered_winner d hd).resolve_right fun hd => nomatch hs.symm.trans hd

/-- The invariant is preserved by every step of every thread. -/
theorem ginv_step (s : GState) (l : GLabel) (h : GInv s) : GInv (gstep s l).1 :=
  h.step (.of_gstep s l)

theorem grun_ind {P : GState → Prop} (hstep : ∀ s l, P s → P (gstep s l).1) (s : GState) (ls : List GLabel)
    (h : P s) : P (grun s ls).1 := by
  induction ls generalizing s with
  | nil => exact h
  | cons l rest ih => exact ih _ (hstep s l h)

/-- **Initialisation outcomes, decided outright.** On either global slot the panicking form returns a handle iff
    the slot was empty and panics otherwise; the try form reports exactly that as a Boolean; `flush_on_drop`
    yields a guard only when `init()` returned. (The Boolean of `.inited` is "panicked", that of `.tried` "succeeded".) -/
theorem global_init_outcome (s : GState) (i : Nat) (f : FSpec) (t : Nat) :
    (gstep s (.init i f)).2 = .inited s.shared.slot.isSome ∧
    (gstep s (.tryInit i f)).2 = .tried s.shared.slot.isNone ∧
    (gstep s (.initGuard i f t)).2 = .inited s.shared.slot.isSome ∧
    (gstep s (.initGuard i f t)).1.guards = (if s.shared.slot.isNone then (i, t) :: s.guards else s.guards) ∧
    (gstep s (.initInternal i f)).2 = .inited s.internal.slot.isSome ∧
    (gstep s (.tryInitInternal i f)).2 = .tried s.internal.slot.isNone := by
  cases hs : s.shared.slot <;> cases hi : s.internal.slot <;>
    simp [gstep, GState.initShared, GState.initInternal, step, hs, hi]

theorem GStep.keeps {s s' : GState} (hs : GStep s s') :
    (∀ w, s.shared.slot = some w → s'.shared.slot = some w ∧ s'.sharedF = s.sharedF) ∧
    (∀ w, s.internal.slot = some w → s'.internal.slot = some w ∧ s'.internalF = s.internalF) := by
  cases hs with
  | quiet sh int hsh hint | deliver sh int hsh hint =>
    exact ⟨fun _ hw => ⟨hsh.trans hw, rfl⟩, fun _ hw => ⟨hint.trans hw, rfl⟩⟩
  | flush | dropGuards => exact ⟨fun _ hw => ⟨hw, rfl⟩, fun _ hw => ⟨hw, rfl⟩⟩
  | fillShared sh i f gs hs => exact ⟨fun _ hw => (nomatch hs.symm.trans hw), fun _ hw => ⟨hw, rfl⟩⟩
  | fillInternal int i f hs => exact ⟨fun _ hw => ⟨hw, rfl⟩, fun _ hw => nomatch hs.symm.trans hw⟩

/-- **The first winner stays, with the filter it was configured with**, on both slots, whatever any thread does
    afterwards (further `init()` calls included: they panic and change nothing). -/
theorem global_winner_stable (s : GState) (ls : List GLabel) :
    (∀ w, s.shared.slot = some w → (grun s ls).1.shared.slot = some w ∧ (grun s ls).1.sharedF = s.sharedF) ∧
    (∀ w, s.internal.slot = some w → (grun s ls).1.internal.slot = some w ∧ (grun s ls).1.internalF = s.internalF) := by
  refine ⟨fun w hw => ?_, fun w hw => ?_⟩
  · refine grun_ind (P := fun t => t.shared.slot = some w ∧ t.sharedF = s.sharedF) (fun t l ⟨h1, h2⟩ => ?_) s ls ⟨hw, rfl⟩
    obtain ⟨k1, k2⟩ := (GStep.of_gstep t l).keeps.1 w h1
    exact ⟨k1, k2.trans h2⟩
  · refine grun_ind (P := fun t => t.internal.slot = some w ∧ t.internalF = s.internalF) (fun t l ⟨h1, h2⟩ => ?_) s ls
      ⟨hw, rfl⟩
    obtain ⟨k1, k2⟩ := (GStep.of_gstep t l).keeps.2 w h1
    exact ⟨k1, k2.trans h2⟩

/-- **A second `init()` panics and its components are never used.** Once a slot has a winner `w`, after any
    further steps of any threads every `init()` / `init_internal()` on it panics, `try_init` fails, no guard is
    produced — and every delivery and every flush that ever happened went to a slot's winner, never to a
    configuration whose initialisation failed. -/
theorem global_second_init_panics (ls : List GLabel) (i : Nat) (f : FSpec) (t : Nat) :
    let s := gfinal ls
    (∀ w, s.shared.slot = some w →
      (gstep s (.init i f)).2 = .inited true ∧ (gstep s (.tryInit i f)).2 = .tried false ∧
      (gstep s (.initGuard i f t)).2 = .inited true ∧ (gstep s (.initGuard i f t)).1.guards = s.guards ∧
      (gstep s (.init i f)).1.shared.slot = some w) ∧
    (∀ w, s.internal.slot = some w →
      (gstep s (.initInternal i f)).2 = .inited true ∧ (gstep s (.tryInitInternal i f)).2 = .tried false ∧
      (gstep s (.initInternal i f)).1.internal.slot = some w) ∧
    (∀ d ∈ s.delivered, s.shared.slot = some d.cfg ∨ s.internal.slot = some d.cfg) ∧
    (∀ p ∈ s.flushes, s.shared.slot = some p.1) := by
  intro s
  have hinv : GInv s := grun_ind ginv_step g0 ls ginv_init
  obtain ⟨o1, o2, o3, o4, o5, o6⟩ := global_init_outcome s i f t
  refine ⟨?_, ?_, hinv.delivered_winner, hinv.flushes_winner⟩
  · intro w hw
    rw [hw] at o1 o2 o3 o4
    exact ⟨o1, o2, o3, o4, ((GStep.of_gstep s (.init i f)).keeps.1 w hw).1⟩
  · intro w hw
    rw [hw] at o5 o6
    exact ⟨o5, o6, ((GStep.of_gstep s (.initInternal i f)).keeps.2 w hw).1⟩

theorem grun_fixed (P : GOut → Prop) (s : GState) (ls : List GLabel)
    (h : ∀ l ∈ ls, (gstep s l).1 = s ∧ P (gstep s l).2) : (grun s ls).1 = s ∧ ∀ o ∈ (grun s ls).2, P o := by
  induction ls with
  | nil => exact ⟨rfl, nofun⟩
  | cons l rest ih =>
    obtain ⟨e, hp⟩ := h l (List.mem_cons_self ..)
    obtain ⟨a, b⟩ := ih fun l hl => h l (List.mem_cons_of_mem _ hl)
    simp only [grun, e]
    exact ⟨a, fun o ho => (List.mem_cons.1 ho).elim (· ▸ hp) (b o)⟩

/-- **Inert before initialisation, through every front door.** While nobody has initialised either global slot:
    the macros without `rt:` (events and spans), `runtime::shared().emit`, `emit::emitter().emit`,
    `runtime::internal().emit` deliver nothing; `emit::blocking_flush` returns true and flushes nobody; the five
    accessors show the empty runtime; dropping (no) guards does nothing. -/
theorem global_inert_before (ls : List GLabel)
    (h : ∀ l ∈ ls, l.initsShared = false ∧ l.initsInternal = false) :
    (gfinal ls).shared.slot = none ∧ (gfinal ls).internal.slot = none ∧
    (gfinal ls).delivered = [] ∧ (gfinal ls).flushes = [] ∧
    ∀ o ∈ (grun g0 ls).2, o = .sent none ∨ o = .flushed true ∨ o = .comps none ∨ o = .dropped := by
  obtain ⟨e, ho⟩ := grun_fixed (fun o => o = .sent none ∨ o = .flushed true ∨ o = .comps none ∨ o = .dropped) g0 ls
      fun l hl => by
    have hl := h l hl
    cases l with
    | emit e | span e | direct e | emitInternal e => exact ⟨rfl, .inl rfl⟩
    | flush t => exact ⟨rfl, .inr (.inl rfl)⟩
    | observe => exact ⟨rfl, .inr (.inr (.inl rfl))⟩
    | dropGuard => exact ⟨rfl, .inr (.inr (.inr rfl))⟩
    | init | tryInit | initGuard => exact nomatch hl.1
    | initInternal | tryInitInternal => exact nomatch hl.2
  have e : gfinal ls = g0 := e
  rw [e]
  exact ⟨rfl, rfl, rfl, rfl, ho⟩

/-- **Through the runtime the configured filter decides; `emit::emitter()` bypasses it.** With `w` in the shared
    slot, set up with filter `f`: an event sent by a macro without `rt:` / `runtime::shared().emit` (and a span,
    on its start event) reaches `w` — with the ambient `cfg = w` — iff `f` accepts it, and nobody otherwise;
    an event sent through `emit::emitter()` ALWAYS reaches `w`, and arrives WITHOUT ambient properties and WITHOUT
    a clock-assigned extent. -/
theorem global_emit_iff_direct_bypasses (s : GState) (w : Nat) (f : FSpec) (hw : s.shared.slot = some w)
    (hf : s.sharedF = some f) (e : GEvt) :
    (gstep s (.emit e)).2 = .sent (if f.accepts e then some w else none) ∧
    (gstep s (.emit e)).1.delivered = (if f.accepts e then ⟨w, e, some w, true⟩ :: s.delivered else s.delivered) ∧
    (gstep s (.span e)).2 = .sent (if f.accepts e then some w else none) ∧
    (gstep s (.span e)).1.delivered = (if f.accepts e then ⟨w, e, some w, true⟩ :: s.delivered else s.delivered) ∧
    (gstep s (.direct e)).2 = .sent (some w) ∧
    (gstep s (.direct e)).1.delivered = ⟨w, e, none, false⟩ :: s.delivered := by
  cases ha : f.accepts e <;> simp [gstep, throughRuntime, hw, hf, ha]

/-- **The internal runtime applies the filter it was configured with.** If `init_internal()` /
    `try_init_internal()` of configuration `i` with filter `f` finds the internal slot empty, then after any
    further steps of any threads an event sent through `runtime::internal()` reaches `i` iff `f` accepts it —
    not "always", and not by any later configuration's filter. -/
theorem internal_uses_configured_filter (s : GState) (hs : s.internal.slot = none) (i : Nat) (f : FSpec)
    (ls : List GLabel) (e : GEvt) :
    let s' := (grun (gstep s (.initInternal i f)).1 ls).1
    (gstep s' (.emitInternal e)).2 = .sent (if f.accepts e then some i else none) ∧
    (gstep s' (.emitInternal e)).1.delivered =
      (if f.accepts e then ⟨i, e, some i, true⟩ :: s'.delivered else s'.delivered) := by
  intro s'
  -- the initialisation finds the slot empty: it wins, and its filter goes in with it
  obtain ⟨a2, a3⟩ : (s.initInternal i f).1.internal.slot = some i ∧ (s.initInternal i f).1.internalF = some f := by
    simp [GState.initInternal, step, hs]
  obtain ⟨k1, k2⟩ := (global_winner_stable (gstep s (.initInternal i f)).1 ls).2 i a2
  have k1' : s'.internal.slot = some i := k1
  have k2' : s'.internalF = some f := k2.trans a3
  cases ha : f.accepts e <;> simp [gstep, throughRuntime, k1', k2', ha]

/-- … and the same for `Setup::init()` on the shared slot. -/
theorem shared_uses_configured_filter (s : GState) (hs : s.shared.slot = none) (i : Nat) (f : FSpec)
    (ls : List GLabel) (e : GEvt) :
    let s' := (grun (gstep s (.init i f)).1 ls).1
    (gstep s' (.emit e)).2 = .sent (if f.accepts e then some i else none) ∧
    (gstep s' (.direct e)).2 = .sent (some i) := by
  intro s'
  obtain ⟨a2, a3⟩ : (s.initShared i f).1.shared.slot = some i ∧ (s.initShared i f).1.sharedF = some f := by
    simp [GState.initShared, step, hs]
  obtain ⟨k1, k2⟩ := (global_winner_stable (gstep s (.init i f)).1 ls).1 i a2
  have k := global_emit_iff_direct_bypasses s' i f k1 (k2.trans a3) e
  exact ⟨k.1, k.2.2.2.2.1⟩

/-- **`flush_on_drop`.** Dropping the guard flushes the guard's own emitter exactly once with the guard's
    timeout; there is at most one guard (only a successful `init()` yields one), it belongs to the winner, and a
    second drop flushes nothing. `emit::blocking_flush(t)` flushes the winner with `t` and reports its answer. -/
theorem guard_flushes_on_drop (ls : List GLabel) :
    let s := gfinal ls
    (gstep s .dropGuard).1.flushes = s.guards ++ s.flushes ∧ (gstep s .dropGuard).1.guards = [] ∧
    (gstep (gstep s .dropGuard).1 .dropGuard).1.flushes = (gstep s .dropGuard).1.flushes ∧
    s.guards.length ≤ 1 ∧ (∀ g ∈ s.guards, s.shared.slot = some g.1) ∧
    (∀ w t, s.shared.slot = some w →
      (gstep s (.flush t)).2 = .flushed (decide (flushNeeds ≤ t)) ∧ (gstep s (.flush t)).1.flushes = (w, t) :: s.flushes) := by
  intro s
  have hinv : GInv s := grun_ind ginv_step g0 ls ginv_init
  refine ⟨rfl, rfl, by simp [gstep], hinv.guards_le_one, hinv.guards_winner, ?_⟩
  intro w t hw
  simp [gstep, hw]

example : (grun g0 [.emit ⟨1, some 3⟩, .direct ⟨2, none⟩, .flush 0, .observe, .span ⟨3, some 2⟩, .emitInternal ⟨4, none⟩]).2 =
    [.sent none, .sent none, .flushed true, .comps none, .sent none, .sent none] := by decide
example : (grun g0 [.init 1 .none, .emit ⟨1, some 3⟩, .direct ⟨2, some 3⟩, .init 2 .all, .emit ⟨3, none⟩]).2 =
    [.inited false, .sent none, .sent (some 1), .inited true, .sent none] := by decide +kernel
example : (gfinal [.initGuard 1 (.minLvl 2) 499, .emit ⟨1, some 1⟩, .emit ⟨2, some 2⟩, .dropGuard, .dropGuard]).flushes = [(1, 499)] ∧
    (gfinal [.initGuard 1 (.minLvl 2) 499, .emit ⟨1, some 1⟩, .emit ⟨2, some 2⟩]).delivered = [⟨1, ⟨2, some 2⟩, some 1, true⟩] := by decide +kernel
example : (grun g0 [.initInternal 1 (.minLvl 2), .initInternal 2 .all, .emitInternal ⟨1, some 1⟩, .emitInternal ⟨2, some 3⟩]).2 =
    [.inited false, .inited true, .sent none, .sent (some 1)] := by decide +kernel

end EmitModel.C20
