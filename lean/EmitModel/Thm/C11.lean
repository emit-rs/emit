/-
  Thm/C11.lean — property C11: rolling files roll, retain and name as configured and stay inside their own set.
  The property theorems, with the event set of their statements (`anyEvent`) and one helper (`stem_ext`); the
  machinery is in Lemmas/FileSet*.lean. Same model as C10 (Model/FileSet.lean).

  The statements about naming, membership, the choice of file and staying inside the own set hold for EVERY fault
  plan; the statements that count files (`retention*`) are for the fault-free filesystem `okPlan`, which is what
  C11 quantifies over (a failed listing or delete is C10 territory: the worker then skips retention for that roll).
  `Inv cfg anyEvent c s` below is the worker invariant with an unconstrained event set: names unique and
  the file the worker holds exists, is a member, has a durable entry and the recorded size is the real one
  (it holds for the empty directory and, `inv_of_nodup`, for any directory of distinct names with no active file).

  OBLIGATIONS (audited by `check` with `#print axioms`):
    name_shape, created_names, member_iff_shape, roll_iff, no_active_opens_or_creates, reuse_iff,
    fits_real_size, batch_bytes, name_order_partial, newest_first, retention_on_create, retention_partial,
    retention_deletes_smallest, own_set_only, one_file_at_a_time, template_split, same_ms_ordered_by_id,
    reuse_keeps_oversized_set, dir_never_empty
-/
import EmitModel.Lemmas.FileSetRetention
import EmitModel.Lemmas.FileSetRun

namespace EmitModel.C11
open EmitModel.FileSet

/-- The always-true event set: for C11 nothing is assumed about the bytes of events or the separator. -/
def anyEvent : List Nat → Prop := fun _ => True

theorem sepOk_any (cfg : Config) (c : Nat) : SepOk cfg anyEvent c := .inr fun _ => trivial

/-- Any directory of distinct names, with no file held, satisfies the invariant. -/
theorem inv_of_nodup (cfg : Config) (c : Nat) (fs : List (List Nat × File)) (h : (names fs).Nodup) :
    Inv cfg anyEvent c { fs := fs, op := 0, active := none, log := [], faulted := false } :=
  ⟨h, fun _ _ _ _ => (clean_of_all (fun _ => trivial) _ _).good, fun a ha => by simp at ha⟩

/-- **Name shape.** A created file is `prefix.period.counter.id.ext`: `period` is the period text of the clock
    reading of that `on_batch` call (which is also what the worker records as the file's period and what the
    membership parse returns), `counter` the 8-digit milliseconds into the period — below 10^8 for all three
    `RollBy` — and `id` 8 lower-case hex digits; after the call the file is empty and its directory entry durable. -/
theorem name_shape (cfg : Config) (plan : Nat → Fault) (now : Parts) (id : Nat) (set : List (List Nat))
    (s s' : St) (a : Active) (hv : now.Valid) (h : createFile cfg plan now id set s = .ok a s') :
    a.name = cfg.pfx ++ [dot] ++ fileTs cfg.rollBy now ++ [dot] ++
        (fixedBase 10 8 (rollingMillis cfg.rollBy now) ++ [dot] ++ fixedBase 16 8 id) ++ [dot] ++ cfg.ext ∧
      a.ts = fileTs cfg.rollBy now ∧ memberTs? cfg.pfx cfg.ext a.name = some (fileTs cfg.rollBy now) ∧
      rollingMillis cfg.rollBy now < 10 ^ 8 ∧ isFileTs (fileTs cfg.rollBy now) = true ∧
      isDigits 8 (fixedBase 10 8 (rollingMillis cfg.rollBy now)) = true ∧ isHexDigits 8 (fixedBase 16 8 id) = true ∧
      fsGet s'.fs a.name = some { synced := [], unsynced := [], durable := true } := by
  obtain ⟨ha, hget⟩ := createFile_ok h
  refine ⟨by subst ha; rfl, by subst ha; rfl, by subst ha; exact memberTs?_nameFor _ _ _ _ _,
    rollingMillis_lt _ hv, isFileTs_fileTs _ _, isDigits_fixedBase _ _, isHexDigits_fixedBase _ _, hget⟩

/-- **Every file a batch creates carries that batch's name** (any fault plan): each `created` entry `on_batch`
    adds to the log is the name computed from this call's clock reading and id. -/
theorem created_names (cfg : Config) (c : Nat) (plan : Nat → Fault) (now : Parts) (id : Nat) (b : Batch) (s : St)
    (hinv : Inv cfg anyEvent c s) :
    ∃ extra, (onBatch cfg plan now id b s).2.log = s.log ++ extra ∧
      ∀ n, Ev.created n ∈ extra → n = nameFor cfg.pfx cfg.ext cfg.rollBy now id := by
  obtain ⟨⟨extra, hlog, _, hc, _⟩, _⟩ := onBatch_rel (N := fun n => n = nameFor cfg.pfx cfg.ext cfg.rollBy now id)
    (sepOk_any cfg c) plan now id b s rfl (fun _ _ => trivial) hinv
  exact ⟨extra, hlog, hc⟩

/-- **Membership is exactly the shape.** A name is a member of the set (and `ts` its period) iff it is
    `prefix.ts.ms.id.ext` with `ts` of the form `dddd-dd-dd[-dd[-dd]]`, `ms` 8 digits and `id` 8 lower-case hex
    digits — the shape of the names this template generates under any `RollBy` (`name_shape`; digits no clock
    reading gives, month 13 say, pass too), and nothing of another shape (no bare `starts_with` / `ends_with`: a
    sibling set `app2.….log` or `app.web.….log` is not a member, dotted prefixes are fine). -/
theorem member_iff_shape (pfx ext name ts : List Nat) :
    memberTs? pfx ext name = some ts ↔
      ∃ ms hx, isFileTs ts = true ∧ isDigits 8 ms = true ∧ isHexDigits 8 hx = true ∧
        name = fileName pfx ext ts (ms ++ [dot] ++ hx) := by
  constructor
  · exact memberTs?_eq_some
  · rintro ⟨ms, hx, h1, h2, h3, rfl⟩
    exact memberTs?_fileName pfx ext ts ms hx h1 h2 h3

/-- **Roll iff** (with a file in hand, any fault plan): the active file is kept — no filesystem call at all —
    exactly when the recorded size plus the batch's bytes is within the limit and the file's period is the
    period of the clock reading; otherwise the listing is read and a new file is created (`createFile`: retention,
    then the new name). -/
theorem roll_iff (cfg : Config) (plan : Nat → Fault) (now : Parts) (id : Nat) (b : Batch) (s : St) (a : Active)
    (hs : s.active = some a) :
    acquire cfg plan now id b s =
      if a.size + b.remaining ≤ cfg.maxSize ∧ a.ts = fileTs cfg.rollBy now then .ok a { s with active := none }
      else
        match readSet cfg plan { s with active := none } with
        | .err s => .err s
        | .crash s => .crash s
        | .ok set s => createFile cfg plan now id set s := by
  unfold acquire
  simp only [hs, fits]
  by_cases h1 : a.size + b.remaining ≤ cfg.maxSize <;> by_cases h2 : a.ts = fileTs cfg.rollBy now <;>
    simp only [h1, h2, decide_true, decide_false, Bool.and_self, Bool.and_false, Bool.false_and, if_true,
      Bool.false_eq_true, if_false, and_self, and_false, false_and] <;>
    cases readSet cfg plan { s with active := none } <;> rfl

/-- Without a file in hand (first batch, after a restart, after any failure — failures always drop the file, see
    C10 `failed_batch_rewritten`): the directory is created, the set listed, then `openOrCreate`. -/
theorem no_active_opens_or_creates (cfg : Config) (plan : Nat → Fault) (now : Parts) (id : Nat) (b : Batch) (s : St)
    (hs : s.active = none) :
    acquire cfg plan now id b s =
      match createDirAll plan { s with active := none } with
      | .err s => .err s
      | .crash s => .crash s
      | .ok () s =>
        match readSet cfg plan s with
        | .err s => .err s
        | .crash s => .crash s
        | .ok set s => openOrCreate cfg plan now id b set s := by
  unfold acquire
  simp only [hs]
  cases createDirAll plan { s with active := none } with
  | err s1 => rfl
  | crash s1 => rfl
  | ok u s1 => cases readSet cfg plan s1 <;> rfl

/-- **Reuse iff**: the newest listed member is reused exactly when reuse is enabled, the set is non-empty, the
    file opens, and the batch fits it in the current period; in every other case a new file is created, except
    that a crash while opening ends the call. -/
theorem reuse_iff (cfg : Config) (plan : Nat → Fault) (now : Parts) (id : Nat) (b : Batch) (set : List (List Nat))
    (s : St) :
    openOrCreate cfg plan now id b set s =
      if cfg.reuse = false then createFile cfg plan now id set s
      else match set with
        | [] => createFile cfg plan now id set s
        | n :: _ =>
          match tryOpenReuse cfg plan n s with
          | .crash s => .crash s
          | .err s => createFile cfg plan now id set s
          | .ok a s =>
            if a.size + b.remaining ≤ cfg.maxSize ∧ a.ts = fileTs cfg.rollBy now then .ok a s
            else createFile cfg plan now id set s := by
  unfold openOrCreate
  cases hr : cfg.reuse with
  | false => simp
  | true =>
    cases set with
    | nil => simp
    | cons n rest =>
      simp only [if_true, List.head?_cons, Bool.true_eq_false, if_false]
      cases tryOpenReuse cfg plan n s with
      | crash s1 => rfl
      | err s1 => rfl
      | ok a s1 =>
        simp only [fits]
        by_cases h1 : a.size + b.remaining ≤ cfg.maxSize <;> by_cases h2 : a.ts = fileTs cfg.rollBy now <;>
          simp [h1, h2]

/-- The size the fit test uses is the real size of the file: in every state reachable under any fault plan the
    file the worker holds exists, is a member of the set, and its recorded size is its content length. -/
theorem fits_real_size (cfg : Config) (c : Nat) (plan : Nat → Fault) (ops : List Op) (s0 : St)
    (h0 : Inv cfg anyEvent c s0) (a : Active) (ha : (run cfg plan s0 ops).active = some a) :
    isMember cfg.pfx cfg.ext a.name = true ∧
      ∃ f, fsGet (run cfg plan s0 ops).fs a.name = some f ∧ a.size = f.content.length := by
  have hinv := run_inv (sepOk_any cfg c) plan ops s0 h0 (fun _ _ _ _ => trivial)
  obtain ⟨hm, ⟨f, hget, _, hsz⟩, _⟩ := hinv.active a ha
  exact ⟨hm, f, hget, hsz⟩

/-- The byte count the fit test uses is the real size of the batch: it is maintained by `push`, by `clear`
    (the D9 fix: counter and cursor are reset with the buffers) and by `advance`. -/
theorem batch_bytes :
    Batch.empty.Wf ∧ (∀ b e, Batch.Wf b → (b.push e).Wf) ∧ (∀ b : Batch, b.clear.Wf) ∧
      (∀ b e r, Batch.Wf b → b.rest = e :: r → (b.advance e).Wf) ∧
      (∀ evs, (Batch.ofEvents evs).Wf ∧ (Batch.ofEvents evs).rest = evs) :=
  ⟨Batch.wf_empty, fun _ e h => Batch.wf_push h e, Batch.wf_clear, fun _ _ _ h hr => Batch.wf_advance h hr,
    fun evs => ⟨Batch.wf_ofEvents evs, Batch.rest_ofEvents evs⟩⟩

/-- **Name order** (partial). Full statement: for readings `a ≤ b` (clock not going backwards) a file created at
    `b` after one created at `a` has the larger name. That is false when both fall in the same millisecond of one
    period (`same_ms_ordered_by_id`, finding F1); proved here under the hypothesis that excludes it:
    for clock readings `a` before `b` (every field in its range, different milliseconds) the name created at `a` is
    lexicographically smaller than the one created at `b`, whatever the ids. -/
theorem name_order_partial (pfx ext : List Nat) (rb : RollBy) (a b : Parts) (ida idb : Nat) (ha : a.Valid)
    (hb : b.Valid) (h : a.before b) : lexLt (nameFor pfx ext rb a ida) (nameFor pfx ext rb b idb) = true := by
  have ea : ∀ (p : Parts) (id : Nat), nameFor pfx ext rb p id =
      (pfx ++ [dot]) ++ (renderFields (periodFields rb p) ++
        ([dot] ++ (fixedBase 10 8 (rollingMillis rb p) ++ ([dot] ++ fixedBase 16 8 id ++ [dot] ++ ext)))) := by
    intro p id; simp [nameFor, fileName, fileId, fileTs_eq_render]
  rw [ea, ea, lexLt_append_left]
  rcases before_cases rb ha h with hlt | ⟨heq, hms⟩
  · exact renderFields_lexLt _ _ (periodFields_bounded rb hb) hlt
  · rw [heq, lexLt_append_left, lexLt_append_left]
    exact lexLt_block _ _ (by simp [fixedBase_length])
      (fixedBase_lexLt 10 8 (by omega) (rollingMillis_lt rb hb) hms)

/-- **Finding F1** (counterexample to the full statement): within one millisecond the order of names is the order
    of the random ids — a file created second with the smaller id sorts below the one created first. -/
theorem same_ms_ordered_by_id :
    lexLt (nameFor [97] [108] .minute ⟨2024, 1, 1, 0, 0, 0, 0⟩ 9) (nameFor [97] [108] .minute ⟨2024, 1, 1, 0, 0, 0, 0⟩ 5)
        = false ∧
      lexLt (nameFor [97] [108] .minute ⟨2024, 1, 1, 0, 0, 0, 0⟩ 5) (nameFor [97] [108] .minute ⟨2024, 1, 1, 0, 0, 0, 0⟩ 9)
        = true := by decide +kernel

/-- **Newest first.** The descending sort the worker applies to the listing puts the largest name first — by
    `name_order_partial` the most recently created file while the clock has not gone backwards. -/
theorem newest_first (l : List (List Nat)) (n : List Nat) (hn : n ∈ l) (hmax : ∀ m ∈ l, m ≠ n → lexLt m n = true) :
    (sortDesc l).head? = some n := by
  have hs := desc_sortDesc l
  have hmem : n ∈ sortDesc l := mem_sortDesc.mpr hn
  cases hl : sortDesc l with
  | nil => rw [hl] at hmem; cases hmem
  | cons x xs =>
    rw [hl] at hs hmem
    simp only [List.head?_cons, Option.some.injEq]
    rcases List.mem_cons.mp hmem with e | hx
    · exact e.symm
    · have hxl : x ∈ l := mem_sortDesc.mp (by rw [hl]; simp)
      unfold Desc at hs
      have h1 := (List.pairwise_cons.mp hs).1 n hx
      by_cases hxn : x = n
      · exact hxn
      · rw [hmax x hxl hxn] at h1; cases h1

/-- **Retention on every roll** (fault-free filesystem): after a successful create from the
    fresh listing the set holds at most `max_files` files, for every `max_files ≥ 1` (the model, like the fixed
    code, has no panic outcome: the D4 `pop().unwrap()` is gone). -/
theorem retention_on_create (cfg : Config) (hmax : 1 ≤ cfg.maxFiles) (now : Parts) (id : Nat) (s s' : St) (a : Active)
    (hnd : (names s.fs).Nodup) (h : createFile cfg okPlan now id (memberSet cfg s.fs) s = .ok a s') :
    memberCount cfg s'.fs ≤ cfg.maxFiles :=
  memberCount_createFile_ok hmax h

/-- **Retention along histories** (partial; fault-free filesystem). Full statement: after every batch the set holds
    at most `max_files` files whatever the directory held before. That is false for a directory that starts above
    the limit while its newest file is reused (`reuse_keeps_oversized_set`, finding reuse-oversize); proved here:
    from any state satisfying the invariant, after every batch / restart of any history the number of member
    files is at most `max (max_files, the initial number)` — so at most `max_files` whenever the directory started
    within the limit, for every `max_files ≥ 1`. -/
theorem retention_partial (cfg : Config) (c : Nat) (hmax : 1 ≤ cfg.maxFiles) (ops : List Op) :
    ∀ (s0 : St), Inv cfg anyEvent c s0 →
      memberCount cfg (run cfg okPlan s0 ops).fs ≤ max cfg.maxFiles (memberCount cfg s0.fs) := by
  intro s0 h0
  refine (run_induct (sepOk_any cfg c) okPlan
    (T := fun s s' => memberCount cfg s'.fs ≤ max cfg.maxFiles (memberCount cfg s.fs)) (fun _ => by omega)
    (fun h1 h2 => by omega) (fun s op hinv _ => ?_) ops s0 h0 (fun _ _ _ _ => trivial)).2
  cases op with
  | batch now id b =>
    rw [runOp, memberCount_congr (onBatch_names_after_acquire cfg now id b s)]
    exact memberCount_acquire hmax now id b s
  | restart => simp only [runOp, restart]; omega

/-- **Finding reuse-oversize** (counterexample to the full statement): three members, `max_files = 2`, reuse on,
    a batch in the period of the newest file — it is reused, nothing is created, nothing is pruned. -/
theorem reuse_keeps_oversized_set :
    let cfg : Config := { pfx := [97], ext := [108], rollBy := .minute, reuse := true, maxFiles := 2, maxSize := 100,
                          sep := [10] }
    let file : File := { synced := [120, 10], unsynced := [], durable := true }
    let s0 : St := { fs := [(nameFor [97] [108] .minute ⟨2024, 1, 1, 0, 1, 0, 0⟩ 1, file),
                            (nameFor [97] [108] .minute ⟨2024, 1, 1, 0, 2, 0, 0⟩ 2, file),
                            (nameFor [97] [108] .minute ⟨2024, 1, 1, 0, 3, 0, 0⟩ 3, file)],
                     op := 0, active := none, log := [], faulted := false }
    (onBatch cfg okPlan ⟨2024, 1, 1, 0, 3, 10, 0⟩ 9 (Batch.ofEvents [[97, 10]]) s0).1 = .ok ∧
      memberCount cfg (onBatch cfg okPlan ⟨2024, 1, 1, 0, 3, 10, 0⟩ 9 (Batch.ofEvents [[97, 10]]) s0).2.fs = 3 := by
  decide +kernel

/-- **Oldest deleted first.** What a create deletes are the smallest names: every deleted name is one of the
    victims (the tail of the descending listing beyond `max_files - 1`), and no kept member is smaller than a
    victim. -/
theorem retention_deletes_smallest (cfg : Config) (now : Parts) (id : Nat) (s s' : St) (a : Active)
    (h : createFile cfg okPlan now id (memberSet cfg s.fs) s = .ok a s') :
    ∃ dl : List (List Nat), s'.log = s.log ++ dl.map Ev.deleted ++ [.created a.name] ∧
      (∀ d ∈ dl, d ∈ victims (cfg.maxFiles - 1) (memberSet cfg s.fs)) ∧
      ∀ k ∈ (memberSet cfg s.fs).take (cfg.maxFiles - 1),
        ∀ v ∈ victims (cfg.maxFiles - 1) (memberSet cfg s.fs), lexLt k v = false := by
  rcases createFile_okPlan cfg now id (memberSet cfg s.fs) s with ⟨s2, he, _, dl, hlog, hdl⟩ | ⟨s2, he, _⟩ <;>
    rw [he] at h <;> cases h
  have hd : Desc (memberSet cfg s.fs) := desc_sortDesc _
  exact ⟨dl, hlog, hdl, fun k hk v hv => desc_take_drop hd _ k hk v (by simpa [victims] using hv)⟩

/-- **Own set only** (any fault plan, any separator, any events, any history, whatever else is in the directory):
    every file the worker creates, opens for append or deletes is a member of its set (the log records exactly
    these calls); a file that is not a member is never created, never deleted, and never gains a byte — it can
    only be affected by a crash of the machine (loses unsynced bytes; vanishes only if its directory entry was
    never durable). -/
theorem own_set_only (cfg : Config) (c : Nat) (plan : Nat → Fault) (ops : List Op) (s0 : St)
    (h0 : Inv cfg anyEvent c s0) :
    (∃ extra, (run cfg plan s0 ops).log = s0.log ++ extra ∧
      ∀ ev ∈ extra, isMember cfg.pfx cfg.ext ev.name = true) ∧
    ∀ n, isMember cfg.pfx cfg.ext n = false →
      match fsGet s0.fs n, fsGet (run cfg plan s0 ops).fs n with
      | none, none => True
      | none, some _ => False
      | some f, none => f.durable = false
      | some f, some f' => f.synced <+: f'.synced ∧ f'.content <+: f.content ∧ (f.durable = true → f'.durable = true) := by
  obtain ⟨⟨extra, hlog, hm, _, _⟩, hf⟩ := run_rel (sepOk_any cfg c) plan ops s0 h0 (fun _ _ _ _ => trivial)
  refine ⟨⟨extra, hlog, hm⟩, ?_⟩
  intro n hn
  have := hf n (by simp [Mem, hn])
  cases h1 : fsGet s0.fs n <;> cases h2 : fsGet (run cfg plan s0 ops).fs n <;> simp only [h1, h2, ForeignRel] at this ⊢ <;>
    exact this

/-- **One file at a time.** Once `on_batch` has chosen its file, a successful batch changes that file only:
    every other name looks up exactly as it did when the file was chosen (and by C10 `acked_durable` all events
    of the batch are in the chosen file). -/
theorem one_file_at_a_time (cfg : Config) (plan : Nat → Fault) (now : Parts) (id : Nat) (b : Batch) (s s' : St)
    (h : onBatch cfg plan now id b s = (.ok, s')) :
    ∃ a s1, acquire cfg plan now id b s = .ok a s1 ∧ (∃ a', s'.active = some a' ∧ a'.name = a.name) ∧
      ∀ m, m ≠ a.name → fsGet s'.fs m = fsGet s1.fs m := by
  obtain ⟨a, s1, a', hacq, hn, hact, hfs⟩ := onBatch_ok h
  refine ⟨a, s1, hacq, ⟨a', hact, hn⟩, fun m hm => ?_⟩
  rw [hfs, fsGet_syncFile_ne _ hm, fsGet_appendBytes_ne _ _ hm]

/-- The tail of the model's `dirPrefixExt`, its `match` on the last dot, copied as the hypothesis: the same for a
    path with and without a directory part. `[108, 111, 103]` is `log`. -/
theorem stem_ext {dir name d p e : List Nat}
    (h : (match splitLast dot name with
      | none => some (dir, name, [108, 111, 103])
      | some (before, after) =>
        if before = [] then some (dir, name, [108, 111, 103]) else some (dir, before, after)) = some (d, p, e)) :
    d = dir ∧ ((name = p ++ dot :: e ∧ dot ∉ e ∧ p ≠ []) ∨ (name = p ∧ e = [108, 111, 103])) := by
  cases hd : splitLast dot name with
  | none => simp only [hd] at h; cases h; exact ⟨rfl, .inr ⟨rfl, rfl⟩⟩
  | some ba =>
    obtain ⟨b, a⟩ := ba
    simp only [hd] at h
    obtain ⟨e1, e2⟩ := splitLast_eq_some hd
    split at h <;> cases h
    · exact ⟨rfl, .inr ⟨rfl, rfl⟩⟩
    · rename_i hb; exact ⟨rfl, .inl ⟨e1, e2, hb⟩⟩

/-- **Template split** (`dir_prefix_ext` on simple Unix paths): the file name of the template is everything after
    the last slash; the prefix and extension are that name split at its last interior dot (`my.app.log` gives
    `my.app` / `log`), and a name without an interior dot is the prefix whole with the default extension `log`.
    So every created name `prefix.….ext` starts with the template's stem and ends with its extension. -/
theorem template_split (path d p e : List Nat) (h : dirPrefixExt path = some (d, p, e)) :
    ∃ name, name ≠ [] ∧ slash ∉ name ∧
      ((path = name ∧ d = [dot]) ∨ ∃ d', path = d' ++ slash :: name ∧ d = if d' = [] then [slash] else d') ∧
      ((name = p ++ dot :: e ∧ dot ∉ e ∧ p ≠ []) ∨ (name = p ∧ e = [108, 111, 103])) := by
  unfold dirPrefixExt at h
  cases hsl : splitLast slash path with
  | none =>
    simp only [hsl] at h
    split at h
    · cases h
    · rename_i hname
      obtain ⟨rfl, hpe⟩ := stem_ext h
      exact ⟨path, fun hp => hname (.inl hp), splitLast_eq_none hsl, .inl ⟨rfl, rfl⟩, hpe⟩
  | some dn =>
    obtain ⟨d', name⟩ := dn
    simp only [hsl] at h
    obtain ⟨e1, e2⟩ := splitLast_eq_some hsl
    split at h
    · cases h
    · rename_i hname
      obtain ⟨rfl, hpe⟩ := stem_ext h
      exact ⟨name, fun hp => hname (.inl hp), e2, .inr ⟨d', e1, rfl⟩, hpe⟩

/-- **The directory is never the empty string** (defect D18, repaired: `app.log` used to split into the directory
    `""`, which the operating system can neither list nor open to sync — every batch failed after creating an empty
    file, nothing was written and retention never ran). For every path the split accepts. -/
theorem dir_never_empty (path d p e : List Nat) (h : dirPrefixExt path = some (d, p, e)) : d ≠ [] := by
  obtain ⟨name, _, _, hd, _⟩ := template_split path d p e h
  rcases hd with ⟨_, rfl⟩ | ⟨d', _, rfl⟩
  · simp
  · split <;> simp_all

example (cfg : Config) : Inv cfg anyEvent 10 emptyState := inv_emptyState _ _ _

example : ({ years := 2024, months := 2, days := 29, hours := 23, minutes := 59, seconds := 59, nanos := 999000000 } :
    Parts).Valid := by constructor <;> decide

/-- The name created at 23:59:59.999 on Feb 29, with the largest id, is below the one created at 00:00:00.000 on
    Mar 1 with the smallest. -/
example :
    lexLt (nameFor [97] [108] .minute ⟨2024, 2, 29, 23, 59, 59, 999000000⟩ 4294967295)
      (nameFor [97] [108] .minute ⟨2024, 3, 1, 0, 0, 0, 0⟩ 0) = true := by decide +kernel

/-- A sibling set is not a member: `app2.….log` against prefix `app`. -/
example : isMember [97, 112, 112] [108, 111, 103]
    (nameFor [97, 112, 112, 50] [108, 111, 103] .day ⟨2024, 1, 1, 0, 0, 0, 0⟩ 1) = false := by decide +kernel

/-- `max_files = 1`: two fault-free batches in different minutes leave one file. -/
example :
    let cfg : Config := { pfx := [97], ext := [108], rollBy := .minute, reuse := false, maxFiles := 1, maxSize := 100,
                          sep := [10] }
    memberCount cfg (run cfg okPlan emptyState
      [.batch ⟨2024, 1, 1, 0, 0, 0, 0⟩ 1 (Batch.ofEvents [[97, 10]]),
       .batch ⟨2024, 1, 1, 0, 1, 0, 0⟩ 2 (Batch.ofEvents [[98, 10]])]).fs = 1 := by decide +kernel

-- `app.log`
example : dirPrefixExt [97, 112, 112, dot, 108, 111, 103] = some ([dot], [97, 112, 112], [108, 111, 103]) := by decide +kernel

end EmitModel.C11
