/-
  Thm/C13.lean — PROPERTY C13: every sink encodes every event faithfully and never panics the caller.

  The theorems are about the executable models of Model/{Json,Value,FileRecord,AnyValue,OtlpRecords,Term}.lean — the
  very functions Driver/C13.lean runs against the real emitters on every check.

  `_partial` theorems carry a hypothesis that excludes a region where the property is FALSE on the code (the
  counterexamples proved here: `any_value_nested_key_panics`, `log_exception_key_duplicates`, `log_time_wraps`) or
  where the model is known not to describe a third-party component; DESIGN §8 / known_findings.txt list them.
-/
import EmitModel.Lemmas.EncodeFile
import EmitModel.Lemmas.EncodeOtlp
import EmitModel.Model.Term

namespace EmitModel.C13
open EmitModel.Encode EmitModel.Json EmitModel.Level

/-- map keys that are labelled tags (`Some(k)`, unit variants): sval_json 2.22 leaves the object unbalanced
    when such a key is followed by a tagged value (third-party defect, known finding `c13-svaljson-tagged-key`);
    the model describes the intended rendering there, so the region is excluded explicitly. -/
def taggedKey : V → Bool
  | .some _ => true
  | .uvar _ => true
  | _ => false

mutual
def NoTaggedKeys : V → Prop
  | .seq xs => NoTaggedKeysList xs
  | .tuple xs => NoTaggedKeysList xs
  | .tvar _ xs => NoTaggedKeysList xs
  | .map kvs => NoTaggedKeysEntries kvs
  | .record fs => NoTaggedKeysFields fs
  | .svar _ fs => NoTaggedKeysFields fs
  | .some v => NoTaggedKeys v
  | .nvar _ v => NoTaggedKeys v
  | _ => True
def NoTaggedKeysList : List V → Prop
  | [] => True
  | x :: xs => NoTaggedKeys x ∧ NoTaggedKeysList xs
def NoTaggedKeysEntries : List (V × V) → Prop
  | [] => True
  | (k, v) :: rest => taggedKey k = false ∧ NoTaggedKeys k ∧ NoTaggedKeys v ∧ NoTaggedKeysEntries rest
def NoTaggedKeysFields : List (String × V) → Prop
  | [] => True
  | (_, v) :: rest => NoTaggedKeys v ∧ NoTaggedKeysFields rest
end

theorem fileRecord_some {e : Event} {j : Json} (h : fileRecord e = some j) :
    ∃ ps, propFields e.deduped = some ps ∧ j = .obj (fixedFields e ++ ps) := by
  obtain ⟨ps, hp, rfl⟩ := Option.map_eq_some_iff.mp h
  exact ⟨ps, hp, rfl⟩

/-- FULL STATEMENT (not claimed): for every event whose float tokens are JSON numbers, what the file emitter
    appends is `render j ++ "\n"` with `IsJson (render j)` and no other newline.
    PROVED: the same, for events without tagged map keys (where the model is tied to sval_json). -/
theorem file_line_is_json_partial (e : Event) (line : List Char)
    (_hsafe : ∀ p ∈ e.props, NoTaggedKeys p.2.image)
    (htok : PropsToksOk e.deduped)
    (h : fileLine e = some line) :
    ∃ j, fileRecord e = some j ∧ line = render j ++ ['\n'] ∧ IsJson (render j) ∧ '\n' ∉ render j := by
  obtain ⟨j, hr, rfl⟩ := Option.map_eq_some_iff.mp h
  obtain ⟨ps, hp, rfl⟩ := fileRecord_some hr
  have hok : Json.NumsOk (.obj (fixedFields e ++ ps)) :=
    numsOkMembers_append _ _ (fixedFields_numsOk e) (propFields_numsOk _ htok ps hp)
  exact ⟨_, hr, rfl, render_isJson _ hok, render_no_newline _ hok⟩

/-- The record starts with the fixed fields: `ts_start` (ranges only), `ts` (the end of the extent), then the
    module, the rendered message and the template — present for every event that is written. -/
theorem file_fixed_fields (e : Event) (j : Json) (h : fileRecord e = some j) :
    ∃ ps, propFields e.deduped = some ps ∧ j = .obj (fixedFields e ++ ps) ∧
      (("mdl", Json.str e.mdl) ∈ fixedFields e ∧ ("msg", Json.str e.msg) ∈ fixedFields e ∧
       ("tpl", Json.str e.tplText) ∈ fixedFields e) ∧
      (∀ t, e.extent.point? = some t → ("ts", Json.str t.text) ∈ fixedFields e) ∧
      (∀ a b, e.extent = .range a b → ("ts_start", Json.str a.text) ∈ fixedFields e) := by
  obtain ⟨ps, hp, hj⟩ := fileRecord_some h
  refine ⟨ps, hp, hj, ?_, ?_, ?_⟩ <;> unfold fixedFields
  · simp
  · intro t ht
    cases hx : e.extent <;> simp_all [Extent.point?]
  · intro a b hx
    simp [hx]

/-- no property member carries a reserved name (with `file_members_unique`: the built-in member is the only member
    of that name) -/
theorem file_reserved_key_not_written (e : Event) (ms ps : List (String × Json))
    (hp : propFields e.deduped = some ps) (_h : fileRecord e = some (.obj ms)) :
    ∀ k ∈ fixedNames, k ∉ keys ps := by
  intro k hk hin
  rw [propFields_keys _ _ hp, List.mem_filter] at hin
  simp [(reservedKey_iff k).mpr hk] at hin

/-- The member names of a record are pairwise distinct — for every event, including those with duplicate
    property keys and with properties named like a built-in field (F2, repaired: such a property is skipped). -/
theorem file_members_unique (e : Event) (ms : List (String × Json))
    (hu : UniqueOk e.unique e.props)
    (h : fileRecord e = some (.obj ms)) : (keys ms).Nodup := by
  obtain ⟨ps, hp, ⟨⟩⟩ := fileRecord_some h
  rw [keys, List.map_append]
  refine List.nodup_append.mpr ⟨(fixedFields_keys e).nodup (by decide), ?_, ?_⟩
  · exact (propFields_keys _ _ hp ▸ (dedup_nodup _ _ hu).filter _ : (keys ps).Nodup)
  · rintro a ha _ hb rfl
    exact file_reserved_key_not_written e _ ps hp h a ((fixedFields_keys e).subset ha) hb

/-- Every property whose key is not reserved appears in the record under its key with its FIRST value,
    structure rendered by `toJson` (with `file_members_unique`: exactly once). -/
theorem file_prop_first_value (e : Event) (ms : List (String × Json)) (k : String) (v : PV)
    (h : fileRecord e = some (.obj ms)) (hv : lookupFirst k e.props = some v) (hk : k ∉ fixedNames) :
    ∃ j, toJson v.image = some j ∧ (k, j) ∈ ms := by
  obtain ⟨ps, hp, hj⟩ := fileRecord_some h
  cases hj
  have hr : reservedKey k = false := Bool.eq_false_iff.mpr (mt (reservedKey_iff k).mp hk)
  obtain ⟨j, h1, h2⟩ := propFields_mem _ _ hp k v (e.mem_deduped hv) hr
  exact ⟨j, h1, List.mem_append_right _ h2⟩

/-- An event is discarded (nothing is written, the failure is counted) exactly when one of its written
    property values cannot be expressed as JSON (`toJson … = none`; by the definition of `toJson`, not by a theorem,
    that is a value containing a map keyed by a sequence, map, byte string, tuple, record or data-carrying variant).
    Nothing else is ever lost by the file writer. -/
theorem file_discard_iff (e : Event) :
    fileLine e = none ↔ ∃ p ∈ e.deduped, reservedKey p.1 = false ∧ toJson p.2.image = none := by
  unfold fileLine fileRecord
  rw [← propFields_none_iff]
  cases propFields e.deduped <;> simp

/-- FULL STATEMENT (false on the code, see `any_value_nested_key_panics`): `anyValue v ≠ panic` for all `v`.
    PROVED, as an equivalence: the bridge panics exactly on values containing a map key that is a byte string,
    sequence, map, record, tuple or struct/tuple variant. -/
theorem any_value_total_partial (v : V) : (∃ a, anyValue v = .ok a) ↔ v.KeysOk := by
  rw [← Enc.isOk_iff]; exact anyValue_isOk v

/-- D7 remainder: a map keyed by a sequence still reaches `todo!()` on the emitting thread. -/
theorem any_value_nested_key_panics :
    anyValue (.map [(.seq [.int 1], .int 2)]) = .panic := by rfl

/-- scalar keys (D7, repaired): booleans, integers of any width, floats and `null` are written as text -/
theorem any_value_scalar_keys :
    anyValue (.map [(.bool true, .int 1), (.int (-5), .int 2), (.int (2 ^ 100), .int 3), (.null, .int 4),
      (.f64 0x3FF8000000000000 "1.5" "1.5", .int 5)]) =
      .ok (.kv [("true", .int 1), ("-5", .int 2), ("1267650600228229401496703205376", .int 3), ("", .int 4),
        ("1.5", .int 5)]) := by rfl

/-- 128-bit integers outside the i64 range become decimal text (OTLP has no wider integer). -/
theorem any_value_wide_int (i : Int) (h : inI64 i = false) : anyValue (.int i) = .ok (.str (toString i)) := by
  simp [anyValue, h]

theorem any_value_i64 (i : Int) (h : inI64 i = true) : anyValue (.int i) = .ok (.int i) := by
  simp [anyValue, h]

/-- STRUCTURE PRESERVED: every value OTLP can express — null, strings, booleans, 64-bit integers, doubles (bit for
    bit), byte strings, arrays (element by element, `null` elements included) and string-keyed maps (entry by
    entry, in order), nested to any depth (`embed`, Lemmas/EncodeOtlp.lean) — goes through the any-value bridge
    unchanged. The documented losses are exactly the shapes outside this image: integers beyond 64 bits become
    decimal text (`any_value_wide_int`), records / variants become maps / their payload, non-text keys text. -/
theorem structure_preserved (a : AnyValue) (h : IntsFit a) : anyValue (embed a) = .ok a :=
  structure_preserved_value a h

/-- FULL STATEMENT (false on the code because of nested map keys): `logRecord e ≠ panic` for every event.
    PROVED for events none of whose values contains a nested map key. -/
theorem log_total_partial (e : Event) (h : PropsKeysOk e.deduped) : ∃ r, logRecord e = .ok r := by
  simp only [← Enc.isOk_iff, logRecord, Enc.isOk_bind, Enc.isOk_ok, and_true, logAttrs_eq]
  exact plainAttrs_isOk _ _ fun p hp _ => propsKeysOk_errExpand h p hp

/-- FULL STATEMENT (false on the code, see `log_exception_key_duplicates`): attribute keys are unique.
    PROVED for events that do not carry a user property `exception.message` / `exception.stacktrace` next to
    `err` (F5). -/
theorem log_attr_keys_unique_partial (e : Event) (r : LogRecord)
    (hu : UniqueOk e.unique e.props) (hx : NoExceptionClash e.props)
    (h : logRecord e = .ok r) : (keys r.attributes).Nodup := by
  have hx' : NoExceptionClash e.deduped := by simpa only [NoExceptionClash, Event.deduped_keys] using hx
  exact plainAttrs_nodup _ _ _ (logRecord_attrs h) (nodup_errExpand _ (dedup_nodup _ _ hu) hx')

/-- F5: `err` synthesises `exception.message`; a user property of that name gives the key twice. -/
theorem log_exception_key_duplicates :
    (logRecord ⟨"m", [], .none, false,
        [("err", .simple (.str "boom")), ("exception.message", .simple (.str "mine"))]⟩) =
      .ok ⟨"m", 0, 0, 9, "info", "", none, none,
        [("exception.message", .str "boom"), ("exception.message", .str "mine")]⟩ := by
  rfl

/-- Every property that is not lifted appears among the attributes under its key with its FIRST value,
    converted by the any-value bridge. (With `log_attr_keys_unique_partial`: exactly once.) -/
theorem log_prop_once_first_value (e : Event) (r : LogRecord) (k : String) (v : PV)
    (h : logRecord e = .ok r) (hv : lookupFirst k e.props = some v)
    (hl : k ≠ "lvl" ∧ k ≠ "span_id" ∧ k ≠ "trace_id" ∧ k ≠ "err") :
    ∃ a, anyValue v.image = .ok a ∧ (k, a) ∈ r.attributes :=
  plainAttrs_mem _ _ _ (logRecord_attrs h) k v (mem_errExpand (e.mem_deduped hv) hl.2.2.2)
    (by simp [logLifted, hl.1, hl.2.1, hl.2.2.1])

/-- Lifting: the severity comes from the first `lvl` (default info), the ids from the first `trace_id` /
    `span_id` (when they cast), the body is the rendered message, the scope is the module; and none of the
    lifted keys is ALSO an attribute. -/
theorem log_lifting (e : Event) (r : LogRecord) (hu : UniqueOk e.unique e.props) (h : logRecord e = .ok r) :
    let level := ((lookupFirst "lvl" e.props).bind PV.castLevel).getD .info
    r.severityNumber = severityNumber level ∧ r.severityText = level.display ∧
    r.traceId = (lookupFirst "trace_id" e.props).bind (PV.castId 128) ∧
    r.spanId = (lookupFirst "span_id" e.props).bind (PV.castId 64) ∧
    r.body = e.msg ∧ r.scope = e.mdl ∧
    (∀ k ∈ ["lvl", "trace_id", "span_id", "err"], k ∉ keys r.attributes) := by
  have has := logRecord_attrs h
  obtain ⟨as, _, ⟨⟩⟩ := (Enc.bind_ok_iff _ _ _).mp h
  simp only [e.deduped_lookupLast hu, true_and]
  intro k hk hin
  rw [plainAttrs_keys _ _ _ has, List.mem_filter] at hin
  simp only [List.mem_cons, List.not_mem_nil, or_false] at hk
  rcases hk with rfl | rfl | rfl | rfl
  · exact absurd hin.2 (by decide)
  · exact absurd hin.2 (by decide)
  · exact absurd hin.2 (by decide)
  · rcases keys_errExpand hin.1 with ⟨_, hne⟩ | ⟨_, hq⟩
    · exact hne rfl
    · rcases hq with hq | hq <;> exact absurd hq (by decide)

/-- `err` lifting for logs: the FIRST `err` value becomes the attribute `exception.message` (through the any-value
    bridge: an error contributes its own message, any other value itself), and an error with a source chain also
    `exception.stacktrace` with one `caused by:` line per source. -/
theorem log_err_lifting (e : Event) (r : LogRecord) (v : PV)
    (h : logRecord e = .ok r) (hv : lookupFirst "err" e.props = some v) :
    ∃ a, anyValue v.image = .ok a ∧ ("exception.message", a) ∈ r.attributes ∧
      ∀ top c cs, v.error? = some (top, c :: cs) →
        ("exception.stacktrace", AnyValue.str (stacktraceText (c :: cs))) ∈ r.attributes := by
  have has := logRecord_attrs h
  obtain ⟨hm, hst⟩ := err_errExpand (e.mem_deduped hv)
  obtain ⟨a, ha, hin⟩ := plainAttrs_mem _ _ _ has _ _ hm (by decide)
  refine ⟨a, ha, hin, fun top c cs he => ?_⟩
  obtain ⟨_, ha', hin'⟩ := plainAttrs_mem _ _ _ has _ _ (hst top c cs he) (by decide)
  cases ha'
  exact hin'

/-- FULL STATEMENT (false on the code for instants ≥ 2^64 ns, F6): the record's timestamps are the end of the
    extent in nanoseconds. PROVED for instants below 2^64 ns (before 2554-07-21T23:34:33.709551616Z). -/
theorem log_time_partial (e : Event) (r : LogRecord) (t : Ts) (h : logRecord e = .ok r)
    (ht : e.extent.point? = some t) (hfit : t.unixNanos < 2 ^ 64) :
    r.timeUnixNano = t.unixNanos ∧ r.observedTimeUnixNano = t.unixNanos := by
  obtain ⟨as, _, ⟨⟩⟩ := (Enc.bind_ok_iff _ _ _).mp h
  simp only [ht, Ts.otlpNanos, u64Wrap, Nat.mod_eq_of_lt hfit, and_self]

/-- F6: the year 9999 wraps: `Timestamp::MAX` is 253402300799999999999 ns, which leaves this remainder mod 2^64. -/
theorem log_time_wraps :
    (match logRecord ⟨"m", [], .point ⟨253402300799, 999999999, "9999-12-31T23:59:59.999999999Z"⟩, false, []⟩ with
      | .ok r => r.timeUnixNano
      | .panic => 0) = 13594627841775828991 := by decide

/-- an event without extent has the zero timestamp -/
theorem log_time_none (e : Event) (r : LogRecord) (h : logRecord e = .ok r) (hx : e.extent = .none) :
    r.timeUnixNano = 0 := by
  obtain ⟨as, _, ⟨⟩⟩ := (Enc.bind_ok_iff _ _ _).mp h
  simp [hx, Extent.point?]

/-- a span is encoded exactly for span-kind events with a range extent (everything else is left to the logs
    signal — C14) -/
theorem span_encoded_iff (e : Event) :
    (spanRecord e).isSome = true ↔ e.isKind .span = true ∧ ∃ a b, e.extent = .range a b := by
  unfold spanRecord
  by_cases hk : e.isKind .span = true
  · simp only [hk, if_true, true_and]
    cases e.extent <;> simp
  · simp [hk]

/-- FULL STATEMENT (false on the code because of nested map keys): encoding a span never panics.
    PROVED for events none of whose values contains a nested map key. -/
theorem span_total_partial (e : Event) (h : PropsKeysOk e.props) (x : Enc SpanRecord)
    (hx : spanRecord e = some x) : ∃ r, x = .ok r := by
  unfold spanRecord at hx
  split at hx
  · split at hx
    · cases hx
      simp only [← Enc.isOk_iff, spanBody, spanAttrs, Enc.isOk_bind, Enc.isOk_ok, and_true, exists_and_right]
      refine ⟨plainAttrs_isOk spanLifted _ fun p hp _ => propsKeysOk_of_props e h p hp, ?_⟩
      unfold spanErrPart
      split
      · rename_i err herr
        simp only [exceptionEvent, Enc.isOk_bind, Enc.isOk_ok, and_true, ← Enc.isOk_iff]
        split at herr
        · exact (anyValue_isOk _).mpr (h _ (Assoc.mem_of_lookupFirst_eq_some (lookupFirst_eq _ _ ▸ herr)))
        · cases herr
      · rfl
    · cases hx
  · cases hx

/-- Attribute keys of a span are unique — for every event (the `exception.*` attributes live in the exception
    EVENT, not among the span's attributes, so F5 does not arise here). -/
theorem span_attr_keys_unique (e : Event) (a b : Ts) (r : SpanRecord) (hu : UniqueOk e.unique e.props)
    (h : spanBody e a b = .ok r) : (keys r.attributes).Nodup :=
  plainAttrs_nodup spanLifted _ _ (spanBody_attrs h) (dedup_nodup _ _ hu)

/-- Every property that is not lifted appears among the span's attributes under its key with its FIRST value. -/
theorem span_prop_once_first_value (e : Event) (a b : Ts) (r : SpanRecord) (k : String) (v : PV)
    (h : spanBody e a b = .ok r) (hv : lookupFirst k e.props = some v) (hl : spanLifted k = false) :
    ∃ av, anyValue v.image = .ok av ∧ (k, av) ∈ r.attributes :=
  plainAttrs_mem spanLifted _ _ (spanBody_attrs h) k v (e.mem_deduped hv) hl

/-- Lifting for spans: ids (trace, span, parent) from the first property of that name, the name from `span_name`
    (else the message), the scope from the module, the kind unspecified; none of the lifted keys is ALSO an
    attribute; without `err` the status is the level (Ok for debug/info, Error for warn/error, message = level
    text) and there is no event. -/
theorem span_lifting (e : Event) (a b : Ts) (r : SpanRecord) (hu : UniqueOk e.unique e.props)
    (h : spanBody e a b = .ok r) :
    r.traceId = (lookupFirst "trace_id" e.props).bind (PV.castId 128) ∧
    r.spanId = (lookupFirst "span_id" e.props).bind (PV.castId 64) ∧
    r.parentSpanId = (lookupFirst "span_parent" e.props).bind (PV.castId 64) ∧
    r.name = nameOr "span_name" e ∧ r.scope = e.mdl ∧ r.kind = 0 ∧
    (∀ k ∈ keys r.attributes, spanLifted k = false) ∧
    (lookupFirst "err" e.props = none →
      let level := ((lookupFirst "lvl" e.props).bind PV.castLevel).getD .info
      r.events = [] ∧ r.statusMessage = level.display ∧ r.statusCode = levelStatusCode level) := by
  have has := spanBody_attrs h
  obtain ⟨as, _, h⟩ := (Enc.bind_ok_iff _ _ _).mp h
  obtain ⟨x, hx, ⟨⟩⟩ := (Enc.bind_ok_iff _ _ _).mp h
  have hl := e.deduped_lookupLast hu
  simp only [hl, true_and]
  refine ⟨?_, ?_⟩
  · intro k hk
    rw [plainAttrs_keys spanLifted _ _ has, List.mem_filter] at hk
    simpa using hk.2
  · intro hnone
    unfold spanErrPart at hx
    simp only [hnone, ite_self, hl] at hx
    cases hx
    exact ⟨rfl, rfl, rfl⟩

/-- `err` lifting for spans: the FIRST `err` value gives one `exception` event stamped with the end of the span,
    carrying `exception.stacktrace` (one `caused by:` line per source, only when there are sources) and
    `exception.message` (the value through the any-value bridge), and the status Error with the error's Display
    text (`"{err} ({root cause})"`) as message. -/
theorem span_err_lifting (e : Event) (a b : Ts) (r : SpanRecord) (err : PV)
    (h : spanBody e a b = .ok r) (herr : lookupFirst "err" e.props = some err) :
    ∃ av, anyValue err.image = .ok av ∧ r.statusCode = 2 ∧ r.statusMessage = err.display ∧
      r.events = [⟨"exception", b.otlpNanos,
        (match err.error? with
          | some (_, c :: cs) => [("exception.stacktrace", AnyValue.str (stacktraceText (c :: cs)))]
          | _ => []) ++ [("exception.message", av)]⟩] := by
  obtain ⟨as, _, h⟩ := (Enc.bind_ok_iff _ _ _).mp h
  obtain ⟨x, hx, ⟨⟩⟩ := (Enc.bind_ok_iff _ _ _).mp h
  have hin : (e.deduped.map Prod.fst).contains "err" = true := by
    have : "err" ∈ e.deduped.map Prod.fst := List.mem_map.mpr ⟨_, e.mem_deduped herr, rfl⟩
    simpa using this
  unfold spanErrPart at hx
  simp only [hin, if_true, herr] at hx
  obtain ⟨ev, hev, ⟨⟩⟩ := (Enc.bind_ok_iff _ _ _).mp hx
  obtain ⟨av, hav, ⟨⟩⟩ := (Enc.bind_ok_iff _ _ _).mp hev
  exact ⟨av, hav, rfl, rfl, rfl⟩

/-- FULL STATEMENT (false for instants ≥ 2^64 ns, F6): start and end are the extent in nanoseconds.
    PROVED for instants below 2^64 ns. -/
theorem span_times_partial (e : Event) (a b : Ts) (r : SpanRecord) (h : spanBody e a b = .ok r)
    (ha : a.unixNanos < 2 ^ 64) (hb : b.unixNanos < 2 ^ 64) :
    r.startTimeUnixNano = a.unixNanos ∧ r.endTimeUnixNano = b.unixNanos := by
  obtain ⟨as, _, h⟩ := (Enc.bind_ok_iff _ _ _).mp h
  obtain ⟨x, _, ⟨⟩⟩ := (Enc.bind_ok_iff _ _ _).mp h
  simp [Ts.otlpNanos, u64Wrap, Nat.mod_eq_of_lt ha, Nat.mod_eq_of_lt hb]

/-- FULL STATEMENT (false on the code because of nested map keys): encoding a metric never panics.
    PROVED for events none of whose values contains a nested map key. -/
theorem metric_total_partial (e : Event) (h : PropsKeysOk e.props) (x : Enc MetricRecord)
    (hx : metricRecord e = some x) : ∃ r, x = .ok r := by
  unfold metricRecord at hx
  split at hx
  · split at hx
    · cases hx
    · obtain ⟨as, has⟩ := (Enc.isOk_iff _).mp
        (plainAttrs_isOk metricLifted _ fun p hp _ => propsKeysOk_of_props e h p hp)
      simp only [metricBody, metricAttrs, has] at hx
      split at hx
      · cases hx
      · split at hx
        · cases hx
        · cases hx; exact ⟨_, rfl⟩
  · cases hx

/-- Attribute keys of every data point are unique — for every event (D8, repaired: the attributes come from the
    de-duplicated properties). -/
theorem metric_attr_keys_unique (e : Event) (value : PV) (r : MetricRecord) (hu : UniqueOk e.unique e.props)
    (h : metricBody e value = some (.ok r)) : ∀ p ∈ r.points, (keys p.attributes).Nodup := by
  obtain ⟨attrs, pts, data, points, hattrs, _, _, rfl, hsame⟩ := metricBody_ok e value r h
  intro p hp
  rw [hsame p hp]
  exact plainAttrs_nodup metricLifted _ _ hattrs (dedup_nodup _ _ hu)

/-- Every property that is not lifted appears on every data point under its key with its FIRST value. -/
theorem metric_prop_once_first_value (e : Event) (value : PV) (r : MetricRecord) (k : String) (v : PV)
    (h : metricBody e value = some (.ok r)) (hv : lookupFirst k e.props = some v) (hl : metricLifted k = false) :
    ∃ av, anyValue v.image = .ok av ∧ ∀ p ∈ r.points, (k, av) ∈ p.attributes := by
  obtain ⟨attrs, pts, data, points, hattrs, _, _, rfl, hsame⟩ := metricBody_ok e value r h
  obtain ⟨av, hav, hin⟩ := plainAttrs_mem metricLifted _ _ hattrs k v (e.mem_deduped hv) hl
  exact ⟨av, hav, fun p hp => hsame p hp ▸ hin⟩

/-- Lifting for metrics: name from `metric_name` (else the message), unit from the FIRST `metric_unit`
    (D8, repaired), scope from the module; none of the lifted keys is an attribute; `sum` / `count` give one
    sum point (non-monotonic / monotonic) over the extent with the temporality of the extent, anything else a
    gauge with one point per sample, in order. -/
theorem metric_lifting (e : Event) (value : PV) (r : MetricRecord) (hu : UniqueOk e.unique e.props)
    (h : metricBody e value = some (.ok r)) :
    r.name = nameOr "metric_name" e ∧ r.scope = e.mdl ∧
    r.unit = (match lookupFirst "metric_unit" e.props with | some u => u.display | none => "") ∧
    (∀ p ∈ r.points, ∀ k ∈ keys p.attributes, metricLifted k = false) ∧
    ∃ pts, extractPts false value.image = some pts ∧
      let agg := (lookupFirst "metric_agg" e.props).bind PV.str?
      let t := metricTimes e.extent
      (agg = some "sum" → r.data = .sum t.2.2 false ∧
        ∃ attrs, r.points = [⟨t.1, t.2.1, sumPts pts, attrs⟩]) ∧
      (agg = some "count" → r.data = .sum t.2.2 true ∧
        ∃ attrs, r.points = [⟨t.1, t.2.1, sumPts pts, attrs⟩]) ∧
      (agg ≠ some "sum" → agg ≠ some "count" → r.data = .gauge ∧ r.points.map (·.value) = pts ∧ pts ≠ []) := by
  obtain ⟨attrs, pts, data, points, hattrs, hpts, hmp, rfl, hsame⟩ := metricBody_ok e value r h
  have hl := e.deduped_lookupLast hu
  refine ⟨rfl, rfl, ?_, ?_, pts, hpts, ?_⟩
  · cases hmu : lookupFirst "metric_unit" e.props <;> simp [hl, hmu]
  · intro p hp k hk
    rw [hsame p hp, plainAttrs_keys metricLifted _ _ hattrs,
      List.mem_filter] at hk
    simpa using hk.2
  · unfold metricPoints at hmp
    refine ⟨?_, ?_, ?_⟩
    · intro hs
      simp only [hs, if_true, Option.some.injEq, Prod.mk.injEq] at hmp
      exact ⟨hmp.1.symm, attrs, hmp.2.symm⟩
    · intro hc
      have hcs : ¬ ((some "count" : Option String) = some "sum") := by decide
      simp only [hc, hcs, if_false, if_true, Option.some.injEq, Prod.mk.injEq] at hmp
      exact ⟨hmp.1.symm, attrs, hmp.2.symm⟩
    · intro hns hnc
      simp only [hns, hnc, if_false, Option.map_eq_some_iff] at hmp
      obtain ⟨ps, hps, ⟨⟩⟩ := hmp
      exact ⟨rfl, (gaugePoints_ok hps).2⟩

/-- sums of integer samples are exact while they fit an i64 -/
theorem sumPts_ints (is : List Int) (acc : Int)
    (h : ∀ n, n ≤ is.length → inI64 (acc + (is.take n).sum) = true) :
    (is.map Pt.int).foldl sumStep (.int acc) = .int (acc + is.sum) := by
  induction is generalizing acc with
  | nil => simp
  | cons i rest ih =>
    have h1 : inI64 (acc + i) = true := by simpa using h 1 (by simp)
    simp only [List.map_cons, List.foldl_cons, sumStep, h1, if_true, List.sum_cons]
    rw [ih (acc + i)]
    · congr 1; omega
    · intro n hn
      have := h (n + 1) (by simp; omega)
      simpa [List.take_succ_cons, List.sum_cons, Int.add_assoc] using this

/-- an integer sum that leaves the i64 range becomes `+inf` (`checked_add` → `f64::INFINITY`) -/
theorem sumPts_overflow : sumPts [.int (2 ^ 63 - 1), .int 1] = .dbl 0x7FF0000000000000 := by
  rfl

/-- the points of a gauge partition the extent: consecutive, starting at the start, never past the end -/
theorem spreadTimes_spec (start time n : Nat) (hle : start ≤ time) :
    (spreadTimes start time n).length = n ∧
    (∀ i, (h : i < (spreadTimes start time n).length) →
      (spreadTimes start time n)[i].1 = start + i * ((time - start) / n) ∧
      (spreadTimes start time n)[i].2 = start + (i + 1) * ((time - start) / n) ∧
      (spreadTimes start time n)[i].2 ≤ time) := by
  refine ⟨by simp [spreadTimes], ?_⟩
  intro i h
  have hi : i < n := by simpa [spreadTimes] using h
  simp only [spreadTimes, List.getElem_map, List.getElem_range, true_and]
  have h1 : (i + 1) * ((time - start) / n) ≤ n * ((time - start) / n) := Nat.mul_le_mul_right _ (by omega)
  have h2 : n * ((time - start) / n) ≤ time - start := Nat.mul_div_le _ _
  omega

/-- the exact sparkline index is within the seven blocks: for samples `mn ≤ v ≤ mx` with `mn < mx`,
    `0 ≤ ⌈(v - mn) / (mx - mn) · 6⌉ ≤ 6`.
    (`_partial`: the code computes the same expression in IEEE double arithmetic — `blockIndex` — and that
    function, including its behaviour on NaN / infinite / equal samples, is only SAMPLED by stream c13_term.) -/
theorem spark_index_le_six_partial (mn mx v : Int) (h1 : mn ≤ v) (h2 : v ≤ mx) (h3 : mn < mx) :
    0 ≤ blockIndexExact mn mx v ∧ blockIndexExact mn mx v ≤ 6 := by
  unfold blockIndexExact
  have hd : 0 < mx - mn := by omega
  constructor
  · apply Int.ediv_nonneg <;> omega
  · have : (v - mn) * 6 + (mx - mn) - 1 < 7 * (mx - mn) := by
      have : (v - mn) * 6 ≤ (mx - mn) * 6 := Int.mul_le_mul_of_nonneg_right (by omega) (by omega)
      omega
    have := Int.ediv_lt_of_lt_mul hd this
    omega

/-- Without a sequence under `metric_value` the terminal writer never panics, and what it prints contains the
    line with the rendered message. -/
theorem term_total_no_sparkline (e : Event) (x : Enc String) (h : termOutput e = some x)
    (hm : ∀ mv, lookupFirst "metric_value" e.props = some mv → ∀ bs, seqView mv ≠ .seq bs) :
    ∃ pre post, x = .ok (pre ++ termMsg e.props e.tpl ++ "\n" ++ post) := by
  unfold termOutput at h
  simp only at h
  split at h
  · cases h; exact ⟨_, _, rfl⟩
  · rename_i mv hmv
    split at h
    · cases h
    · cases h; exact ⟨_, _, rfl⟩
    · cases h; exact ⟨_, _, rfl⟩
    · rename_i bs _ hsv
      exact absurd hsv (hm mv hmv _)

/-! ## Re-entrancy: a value whose formatting code emits through the same emitter

`emitRe enc outer inner k` is `Otlp::emit outer` during which the encoder formats, `k` times in all, values of
`outer` whose `Display` code emits `inner` through the same emitter on the same thread (Model/OtlpRecords.lean).
`enc` is any signal's encoder in any encoding (`logRecord`, `spanRecord`, `metricRecord` — protobuf and JSON
build the same structured record). -/

theorem emitNested_declined {ρ : Type} (enc : Event → Option (Enc ρ)) (inner : Event) (h : enc inner = none)
    (k : Nat) (q : List ρ) : emitNested enc inner k q = .ok q := by
  induction k with
  | zero => rfl
  | succ k ih => simp [emitNested, emitOne, h, Enc.bind, ih]

theorem emitNested_ok {ρ : Type} (enc : Event → Option (Enc ρ)) (inner : Event) (s : ρ)
    (h : enc inner = some (.ok s)) (k : Nat) (q : List ρ) :
    emitNested enc inner k q = .ok (q ++ List.replicate k s) := by
  induction k generalizing q with
  | zero => simp [emitNested]
  | succ k ih => simp [emitNested, emitOne, h, Enc.bind, ih, List.replicate_succ]

/-- **The nested emit is just another emit.** A re-entrant emit leaves the pipeline exactly as the plain emits
    `inner` (k times), then `outer`, one after the other, would: same records, same order, same panics. -/
theorem reentrant_emit_is_sequential {ρ : Type} (enc : Event → Option (Enc ρ)) (outer inner : Event)
    (k : Nat) (q : List ρ) :
    emitRe enc outer inner k q = emitAll enc (List.replicate k inner ++ [outer]) q := by
  unfold emitRe
  induction k generalizing q with
  | zero => cases h : emitOne enc outer q <;> simp [emitNested, emitAll, Enc.bind, h]
  | succ k ih =>
    simp only [emitNested, List.replicate_succ, List.cons_append, emitAll]
    cases h : emitOne enc inner q with
    | panic => simp [Enc.bind]
    | ok q' => simpa [Enc.bind] using ih q'

/-- **Both events are accepted.** When the encoder accepts `outer` (record `r`) and `inner` (record `s`) on
    their own, the re-entrant emit does not panic and queues every nested record and the outer record — the very
    `r` a plain emit of `outer` queues; nothing queued before is touched. -/
theorem reentrant_emit_accepts_both {ρ : Type} (enc : Event → Option (Enc ρ)) (outer inner : Event) (r s : ρ)
    (ho : enc outer = some (.ok r)) (hi : enc inner = some (.ok s)) (k : Nat) (q : List ρ) :
    emitRe enc outer inner k q = .ok (q ++ List.replicate k s ++ [r]) ∧
    emitOne enc outer q = .ok (q ++ [r]) := by
  simp [emitRe, emitNested_ok enc inner s hi, emitOne, ho, Enc.bind]

/-- **Re-entrancy adds no panic.** The emitting thread panics iff the encoder panics on `outer` alone, or a
    nested emit happens and the encoder panics on `inner` alone. -/
theorem reentrant_emit_panics_iff {ρ : Type} (enc : Event → Option (Enc ρ)) (outer inner : Event)
    (k : Nat) (q : List ρ) :
    emitRe enc outer inner k q = .panic ↔ ((0 < k ∧ enc inner = some .panic) ∨ enc outer = some .panic) := by
  have outerOnly : ∀ q' : List ρ, emitOne enc outer q' = .panic ↔ enc outer = some .panic := by
    intro q'
    unfold emitOne
    cases h : enc outer with
    | none => simp
    | some x => cases x <;> simp
  unfold emitRe
  cases hi : enc inner with
  | none => simp [emitNested_declined enc inner hi, Enc.bind, outerOnly]
  | some x =>
    cases x with
    | ok s => simp [emitNested_ok enc inner s hi, Enc.bind, outerOnly]
    | panic =>
      cases k with
      | zero => simp [emitNested, Enc.bind, outerOnly]
      | succ k => simp [emitNested, emitOne, hi, Enc.bind]

/-- A declined nested event (e.g. a plain event on a traces-only emitter) changes nothing. -/
theorem reentrant_emit_inner_declined {ρ : Type} (enc : Event → Option (Enc ρ)) (outer inner : Event)
    (hi : enc inner = none) (k : Nat) (q : List ρ) : emitRe enc outer inner k q = emitOne enc outer q := by
  simp [emitRe, emitNested_declined enc inner hi, Enc.bind]

def sampleEvent : Event :=
  ⟨"app::db", [.text "query ", .hole "sql", .text " took ", .hole "ms"], .range ⟨1, 0, "t0"⟩ ⟨2, 5, "t1"⟩, false,
    [("ms", .simple (.f64 0x3FF8000000000000 "1.5" "1.5")), ("sql", .simple (.str "select\n1")),
     ("ms", .simple (.int 7)), ("lvl", .simple (.str "warn")),
     ("err", .simple (.err "outer" ["mid", "root"])),
     ("m", .tree (.map [(.int 1, .seq [.null, .bytes [0, 255]]), (.text "k", .nvar "B" (.bool true))]) "{…}")]⟩

example : UniqueOk sampleEvent.unique sampleEvent.props := by simp [UniqueOk, sampleEvent]
example : NoExceptionClash sampleEvent.props := by
  intro _; simp [keys, sampleEvent]
example : PropsKeysOk sampleEvent.props := by
  intro p hp
  simp only [sampleEvent, List.mem_cons, List.not_mem_nil, or_false] at hp
  rcases hp with rfl | rfl | rfl | rfl | rfl | rfl <;>
    simp [PV.image, Simple.image, V.KeysOk, V.KeysOkEntries, V.KeysOkList, V.keyOk]
example : (fileLine sampleEvent).isSome = true := by decide +kernel
example : ∃ r, logRecord sampleEvent = .ok r ∧ r.severityNumber = 13 ∧ r.attributes.length = 5 := by
  refine ⟨_, rfl, ?_, ?_⟩ <;> decide

/-- the demo of seeded change C13-r3m1: a log event with a `Display` value (`v`) that logs when formatted; the
    formatter runs twice (message hole and attribute): two nested records, then the outer one -/
def reOuter : Event :=
  ⟨"outer", [.text "hello ", .hole "v"], .none, false,
    [("a", .simple (.int 1)), ("v", .simple (.disp "some text")), ("z", .simple (.bool true))]⟩
def reInner : Event := ⟨"inner", [.text "formatting a value"], .none, false, [("depth", .simple (.int 1))]⟩

example : ∃ r s, (fun e => some (logRecord e)) reOuter = some (.ok r) ∧
    (fun e => some (logRecord e)) reInner = some (.ok s) ∧ r.body = "hello some text" ∧ s.scope = "inner" :=
  ⟨_, _, rfl, rfl, by decide +kernel, by decide +kernel⟩
example : (match emitRe (fun e => some (logRecord e)) reOuter reInner 2 [] with
    | .ok q => q.map (·.scope)
    | .panic => []) = ["inner", "inner", "outer"] := by decide +kernel
-- the driver nests the inner emit only where `formatsAttributes` says the signal formats the value at all
example : formatsAttributes .logs reOuter = true ∧ formatsAttributes .traces reOuter = false := by decide +kernel

end EmitModel.C13
