/-
  Thm/C06.lean — property C06: the batching channel neither loses, duplicates nor reorders accepted items.
  Property theorems only; the inductive invariants live in Lemmas/Batcher.lean.

  All theorems quantify over every configuration `cfg` (capacity, retry budget, delays) and every state reachable
  by ANY list of labels of Model/Batcher.lean — i.e. every interleaving of any number of sender operations with the
  receiver's steps, every processor outcome (any remainder), drops of either half at any enabled point.

  OBLIGATIONS (audited by `check` with `#print axioms`):
    partition_fifo, partition_fifo_at_await, exactly_once, retry_is_remainder, truncation_counted,
    teardown_only_loss, no_delivery_after_teardown, take_hands_over, watcher_runs_outside_lock,
    watcher_reentry_keeps_batch, outcome_forms_agree, closed_after_receiver_drop
-/
import EmitModel.Lemmas.Batcher
import EmitModel.Lemmas.BatcherExt

namespace EmitModel.C06
open EmitModel.Batcher EmitModel.Sched

/-- **Partition / FIFO / exactly once.** In every reachable state the accepted items that were not cleared by a
    truncation are, in acceptance order, exactly: the concatenation of the first-attempt batches handed to the
    processor so far, then the batch swapped out under the lock but not yet handed over (non-empty only between
    the unlock and the call of `on_batch`), then the pending queue. So every kept item reaches the processor
    exactly once, in order, in batches that partition the sequence. Holds with the receiver alive or gone. -/
theorem partition_fifo (cfg : Cfg) (s : St) (h : Reachable cfg s) :
    s.acceptedKept = s.firstAttempts.flatten ++ s.rx.takenBatch ++ s.pending :=
  (invPart_reachable cfg s h).part

/-- At every await point of the receiver (and at its loop head) nothing is in between: kept = delivered ++ pending. -/
theorem partition_fifo_at_await (cfg : Cfg) (s : St) (h : Reachable cfg s)
    (hr : ∀ b tw fw o, s.rx ≠ .taken b tw fw o) :
    s.acceptedKept = s.firstAttempts.flatten ++ s.pending := by
  have := partition_fifo cfg s h
  cases hrx : s.rx
  case taken b tw fw o => exact absurd hrx (hr b tw fw o)
  all_goals simp_all

/-- With distinct items (the harness uses unique ids) positions are identities: no item is handed over twice as a
    first attempt, none is both delivered and still pending, none is both delivered/pending and truncated. -/
theorem exactly_once (cfg : Cfg) (s : St) (h : Reachable cfg s) (hd : s.accepted.Nodup) :
    (s.firstAttempts.flatten ++ s.rx.takenBatch ++ s.pending ++ s.truncations.flatten).Nodup := by
  have hp := (invPart_reachable cfg s h).perm
  rw [partition_fifo cfg s h] at hp
  exact hp.nodup_iff.mp hd

/-- **Retries.** Every `on_batch` call is either a first attempt or a retry; the argument of every retry call is
    exactly the remainder returned by the outcome before it (`retryCalls` pairs the remainder recorded at the
    `failRetry` outcome with the argument actually passed), and while the receiver waits to retry, the remainder
    it holds is the one that was returned. Nothing else of that batch is ever re-delivered (by `partition_fifo`
    every later first attempt is a later segment of the accepted sequence). -/
theorem retry_is_remainder (cfg : Cfg) (s : St) (h : Reachable cfg s) :
    (∀ p ∈ s.retryCalls, p.1 = p.2) ∧
    s.calls.length = s.firstAttempts.length + s.retryCalls.length ∧
    (∀ o r w, s.rx = .retryWait o r w → s.lastReturned = r) :=
  let i := invRetry_reachable cfg s h
  ⟨i.retryOk, i.callsLen, i.retryRem⟩

/-- **Truncations are counted and are the only way an accepted item leaves the kept sequence**: the counter
    `queue_full_truncated` equals the number of truncations, and the accepted items are, as a multiset, the kept
    ones plus the truncated segments. -/
theorem truncation_counted (cfg : Cfg) (s : St) (h : Reachable cfg s) :
    s.truncations.length = s.mTruncated ∧
    s.accepted.Perm (s.acceptedKept ++ s.truncations.flatten) :=
  let i := invPart_reachable cfg s h
  ⟨i.truncCount, i.perm⟩

/-- **Teardown.** After the receiver was torn down, the only kept items that were never handed to the processor
    are those pending at that moment (they stay pending, or a later overflowing `send` clears and counts them). -/
theorem teardown_only_loss (cfg : Cfg) (s : St) (h : Reachable cfg s) (ht : s.tornDown = true) :
    s.rx = .done ∧
    s.acceptedKept = s.firstAttempts.flatten ++ s.pending ∧
    (s.pending = s.pendingAtTeardown ∨ s.pending = []) ∧
    (∀ x ∈ s.acceptedKept, x ∈ s.firstAttempts.flatten ∨ x ∈ s.pendingAtTeardown) := by
  have it := invTear_reachable cfg s h
  have hdone := it.done ht
  have hk : s.acceptedKept = s.firstAttempts.flatten ++ s.pending :=
    partition_fifo_at_await cfg s h (by simp [hdone])
  refine ⟨hdone, hk, it.pend ht, ?_⟩
  intro x hx
  rw [hk, List.mem_append] at hx
  rcases hx with hx | hx
  · exact Or.inl hx
  · rcases it.pend ht with e | e
    · exact Or.inr (e ▸ hx)
    · simp [e] at hx

/-- Once the receiver is gone (returned or torn down) no label delivers anything any more. -/
theorem no_delivery_after_teardown (cfg : Cfg) (s s' : St) (l : Label) (hd : s.rx = .done)
    (hs : step cfg s l = some s') :
    s'.rx = .done ∧ s'.calls = s.calls ∧ s'.firstAttempts = s.firstAttempts := by
  cases Step.of_step hs with
  | sendTrunc | sendTruncClosed | send | sendClosed | trySend | trySendRefused | whenFlushedNow | whenFlushedLater
    | whenEmptyNow | whenEmptyLater | dropSender => exact ⟨hd, rfl, rfl⟩
  | dropReceiver => exact ⟨rfl, rfl, rfl⟩
  | _ => cases hd

/-- **The swap-out.** The one critical section of the receiver loop (lib.rs:369-400) takes the whole pending batch
    together with every watcher registered on it and leaves the shared state EMPTY — this is the point
    `Sender::when_empty` promises ("a point where the current batch is empty") — and it runs no callback: the
    callbacks are separate, later labels (`rxFireTake`, `rxFireFlush`). -/
theorem take_hands_over (s s' : St) (h : rxTake s = some s') :
    s'.pending = [] ∧ s'.pendTakeW = [] ∧ s'.pendFlushW = [] ∧
    s'.rx.takenBatch = s.pending ∧ s'.rx.takeWs = s.pendTakeW ∧ s'.rx.ws = s.pendFlushW ∧
    s'.firedTake = s.firedTake ∧ s'.fired = s.fired := by
  -- `step cfg s .rxTake` is `rxTake s` whatever the configuration
  cases Step.of_step (cfg := Cfg.real 0) (l := .rxTake) h with
  | take => exact ⟨rfl, rfl, rfl, rfl, rfl, rfl, rfl, rfl⟩

/-- **A callback runs outside the lock.** The label that runs one watcher callback (`notify_on_take` /
    `notify_on_flush`, lib.rs:403, 461, 466) records that it ran — exactly that watcher, exactly once — and touches
    nothing behind the mutex and nothing of the batch the receiver holds; and in the state it runs in, EVERY sender
    operation is enabled (the `Sender` still in hand): a callback that re-enters the channel with `send`,
    `try_send`, `when_flushed`, `when_empty` (or a blocking send, or metrics sampling — a read) performs an ordinary
    sender step; the receiver never makes it wait. -/
theorem watcher_runs_outside_lock (cfg : Cfg) (s s' : St) (l : Label) (hl : l = .rxFireTake ∨ l = .rxFireFlush)
    (h : step cfg s l = some s') :
    s'.pending = s.pending ∧ s'.pendTakeW = s.pendTakeW ∧ s'.pendFlushW = s.pendFlushW ∧
    s'.isOpen = s.isOpen ∧ s'.inBatch = s.inBatch ∧ s'.senderAlive = s.senderAlive ∧
    s'.rx.takenBatch = s.rx.takenBatch ∧ s'.calls = s.calls ∧
    (∃ w, (l = .rxFireTake ∧ s'.firedTake = s.firedTake ++ [w] ∧ s'.fired = s.fired ∧ s.rx.takeWs = w :: s'.rx.takeWs) ∨
          (l = .rxFireFlush ∧ s'.fired = s.fired ++ [w] ∧ s'.firedTake = s.firedTake ∧ s.rx.ws = w :: s'.rx.ws)) ∧
    (s.senderAlive = true → ∀ m : Label, m.isSender = true → (step cfg s' m).isSome = true) := by
  have hen : s'.senderAlive = s.senderAlive →
      (s.senderAlive = true → ∀ m : Label, m.isSender = true → (step cfg s' m).isSome = true) :=
    fun e ha m hm => sender_enabled cfg s' m hm (e ▸ ha)
  cases Step.of_step h with
  | fireTake s b w => exact ⟨rfl, rfl, rfl, rfl, rfl, rfl, rfl, rfl, ⟨w, .inl ⟨rfl, rfl, rfl, rfl⟩⟩, hen rfl⟩
  | fireFlushEmpty s w => exact ⟨rfl, rfl, rfl, rfl, rfl, rfl, rfl, rfl, ⟨w, .inr ⟨rfl, rfl, rfl, rfl⟩⟩, hen rfl⟩
  | fireFlush s w => exact ⟨rfl, rfl, rfl, rfl, rfl, rfl, by simp, rfl, ⟨w, .inr ⟨rfl, rfl, rfl, by simp⟩⟩, hen rfl⟩
  | _ => rcases hl with hl | hl <;> cases hl

/-- **A re-entrant watcher cannot disturb the batch in hand.** Whatever sender operations are performed — from
    inside a callback or from any other thread — between the swap-out of a batch and its hand-over (or at any other
    time), the receiver's control point with the batch and the watchers it holds is untouched and nothing is handed
    to the processor by them; whatever they get accepted lands in the pending queue, after the batch in hand
    (`partition_fifo` holds in the resulting state: it is reachable). -/
theorem watcher_reentry_keeps_batch (cfg : Cfg) (s s' : St) (h : Reachable cfg s) (ls : List Label)
    (hl : ∀ l ∈ ls, l.isSender = true) (hrun : run (step cfg) s ls = some s') :
    s'.rx = s.rx ∧ s'.calls = s.calls ∧ s'.firstAttempts = s.firstAttempts ∧
    s'.acceptedKept = s'.firstAttempts.flatten ++ s.rx.takenBatch ++ s'.pending := by
  obtain ⟨e1, e2, e3⟩ := sender_run_rx cfg ls s s' hl hrun
  refine ⟨e1, e2, e3, ?_⟩
  have := partition_fifo cfg s' (Sched.Reachable.run h hrun)
  rw [e1] at this
  exact this

/-- **Every way of building an outcome means the same.** "Retry exactly `rem`" reached directly, by attaching a
    remainder to a non-retryable error, by replacing the remainder of a retryable error, or by taking an error apart
    and rebuilding it is one and the same value, so the retry clause (`retry_is_remainder`) does not depend on how
    the processor built its error; likewise for "failed, nothing to retry". -/
theorem outcome_forms_agree {T : Type} (rem other : T) :
    (BErr.noRetry : BErr T).mapRetryable (fun _ => some rem) = BErr.retry rem ∧
    (BErr.retry other).mapRetryable (fun r => r.map fun _ => rem) = BErr.retry rem ∧
    (match (BErr.retry rem).tryIntoRetryable with | .ok r => BErr.retry r | .error e => e) = BErr.retry rem ∧
    (BErr.retry other).mapRetryable (fun _ => (none : Option T)) = BErr.noRetry ∧
    (match (BErr.noRetry : BErr T).tryIntoRetryable with | .ok r => BErr.retry r | .error e => e) = BErr.noRetry := by
  refine ⟨rfl, rfl, rfl, rfl, rfl⟩

/-- **A dropped receiver closes the channel.** Whatever the shared state was when the receiver was torn down (a sender
    in the middle of its own critical section has simply finished it — the drop takes the lock), afterwards the
    channel is closed: `try_send` answers `closed` and accepts nothing, so no item can be accepted that nobody will
    ever process. -/
theorem closed_after_receiver_drop (cfg : Cfg) (s s' : St) (x : Nat) (h : dropReceiver s = some s') :
    s'.isOpen = false ∧ (trySend cfg s' x).2 = .closed ∧ (trySend cfg s' x).1 = s' := by
  have ho : s'.isOpen = false := by
    unfold dropReceiver at h
    split at h <;> simp at h <;> subst h <;> rfl
  refine ⟨ho, ?_, ?_⟩ <;> simp [trySend, ho]

/-- non-vacuity: the initial state with one pending item can lose its receiver -/
example : ∃ s', dropReceiver (send ⟨8, 10, 1, 10, 1, 10⟩ init 1) = some s' := ⟨_, rfl⟩

/-- capacity 2: three sends overflow once; the receiver takes `[3]`, the processor returns remainder `[3]`,
    the retry happens; meanwhile 4 and 5 are accepted. -/
def demo : List Label :=
  [.send 1, .send 2, .send 3, .rxTake, .rxBegin, .send 4, .rxOutcome (.failRetry [3]), .trySend 5,
   .rxRetryWaited, .rxOutcome .ok, .rxTake]

example : ∃ s, Reachable (Cfg.real 2) s ∧ s.firstAttempts = [[3]] ∧ s.rx.takenBatch = [4, 5] ∧ s.pending = [] ∧
    s.truncations = [[1, 2]] ∧ s.retryCalls = [([3], [3])] ∧ s.accepted = [1, 2, 3, 4, 5] ∧ s.accepted.Nodup :=
  ⟨_, ⟨demo, rfl⟩, by decide⟩

example : ∃ s, Reachable (Cfg.real 2) s ∧ s.tornDown = true ∧ s.pendingAtTeardown = [2] ∧ s.firstAttempts = [[1]] :=
  ⟨_, ⟨[.send 1, .rxTake, .rxBegin, .send 2, .dropReceiver], rfl⟩, by decide⟩

/-- the demo of seeded change C06-r3m2: [0] is being processed, [1] is pending with a `when_empty` watcher; the
    batch completes, the receiver swaps [1] out, the watcher runs and `try_send`s 2 from inside the callback — an
    ordinary sender step: 2 is accepted behind the batch in hand, and both are handed over, in order -/
example : ∃ s, Reachable (Cfg.real 16) s ∧ s.rx = .taken [1] [] [] true ∧ s.pending = [2] ∧ s.firedTake = [7] ∧
    ∃ s', run (step (Cfg.real 16)) s [.rxBegin, .rxOutcome .ok, .rxTake, .rxBegin] = some s' ∧
      s'.firstAttempts = [[0], [1], [2]] ∧ s'.acceptedKept = [0, 1, 2] :=
  ⟨_, ⟨[.send 0, .rxTake, .rxBegin, .send 1, .whenEmpty 7, .rxOutcome .ok, .rxTake, .rxFireTake, .trySend 2], rfl⟩,
   by decide, by decide, by decide, _, rfl, by decide, by decide⟩

end EmitModel.C06
