/-
  Thm/C01.lean — property C01: an event is emitted iff the effective filter accepts the fully built event.
  Property theorems and the vocabulary they are stated in; helper lemmas live in Lemmas/Pipeline.lean. All statements
  quantify over every leaf-filter behaviour `ρ`, every wrapping function `μ`, every leaf flush behaviour `φ`, every
  filter / destination tree (any depth, any placement of the transparent layers), every event, every ambient property
  list and every clock reading.

  OBLIGATIONS (audited by `check` with `#print axioms`):
    built_event, emit_iff, emit_log, emit_exactly_once, hook_emit_iff, hook_emit_event_iff,
    deliver_exactly_once, deliver_at_most_once, deliver_all, path_maps_only,
    eval_and, eval_or, eval_opt, eval_empty, eval_always, calls_and, calls_or, calls_same_event,
    eval_layers, run_layers, flush_layers, evalTrace_strip, run_strip, flush_strip,
    call_site_overrides, no_call_site_uses_runtime_filter, runtime_emit_is_emitter_impl,
    direct_bypass, direct_is_unfiltered_emit, flush_and, flush_defers, flush_spec,
    macro_emit_iff, macro_emit_evt_iff, span_filter_sees_level, span_macro_completes_iff, span_done_is_span,
    kind_leaf_spec
-/
import EmitModel.Lemmas.Pipeline
import EmitModel.Base.Assoc

namespace EmitModel.C01
open EmitModel.Pipeline

variable (ρ : Nat → Evt → Bool) (μ : Nat → Evt → Evt) (φ : Nat → Nat → Bool)

theorem build_eq (amb : List (String × Val)) (clk : Option Nat) (x : Evt) :
    build amb clk x = ⟨x.mdl, x.tpl, x.extent <|> clk.map Extent.point, x.props ++ amb⟩ := by
  cases hx : x.extent <;> simp [build, hx]

/-- The event destinations (and the filter) see: module and template untouched, own properties followed by
    the ambient ones, own extent if there is one and otherwise the clock's reading as a point. -/
theorem built_event (amb : List (String × Val)) (clk : Option Nat) (x : Evt) :
    (build amb clk x).props = x.props ++ amb ∧
    (build amb clk x).extent = (x.extent <|> clk.map Extent.point) ∧
    (∀ e, x.extent = some e → (build amb clk x).extent = some e) ∧
    (x.extent = none → (build amb clk x).extent = clk.map Extent.point) ∧
    (build amb clk x).mdl = x.mdl ∧ (build amb clk x).tpl = x.tpl := by
  simp +contextual [build_eq]

/-- The effective filter: the call-site filter when one is given, otherwise the runtime's. -/
def effective (callSite : Option Flt) (rtf : Flt) : Flt := callSite.getD rtf

theorem firstDefined_eq (cs : Option Flt) (rtf : Flt) :
    firstDefined ρ cs rtf = (effective cs rtf).evalTrace ρ := by
  cases cs <;> rfl

/-- The complete effect log of an emission: the leaf calls of the effective filter on the built event,
    followed — iff it accepted — by whatever the emitter does with the built event. -/
theorem emit_log (rt : Rt) (cs : Option Flt) (x : Evt) :
    emit ρ μ rt cs x =
      (effective cs rt.filter).calls ρ (build rt.amb rt.clk x) ++
        (if (effective cs rt.filter).eval ρ (build rt.amb rt.clk x)
          then rt.emitter.run ρ μ (build rt.amb rt.clk x) else []) := by
  simp only [emit, emitCore, firstDefined_eq]; rfl

/-- **C01, main clause.** What the destinations receive when an event is emitted through a runtime is
    exactly what the emitter delivers for the *built* event if the effective filter accepts the built event,
    and nothing otherwise. -/
theorem emit_iff (rt : Rt) (cs : Option Flt) (x : Evt) :
    (emit ρ μ rt cs x).filterMap Obs.dlv? =
      if (effective cs rt.filter).eval ρ (build rt.amb rt.clk x)
        then rt.emitter.deliver ρ μ (build rt.amb rt.clk x) else [] := by
  simp only [emit, firstDefined_eq, emitCore_dlv]; rfl

/-- `__private_emit` (what `emit::emit!` expands to): the event is the control parameters with the call-site
    properties in front of the `props:` base properties; then as `emit_iff`. -/
theorem hook_emit_iff (rt : Rt) (cs : Option Flt) (mdl tpl : String) (extent : Option Extent)
    (base props : List (String × Val)) :
    let built : Evt := ⟨mdl, tpl, extent <|> rt.clk.map Extent.point, props ++ base ++ rt.amb⟩
    (hookEmit ρ μ rt cs mdl tpl extent base props).filterMap Obs.dlv? =
      if (effective cs rt.filter).eval ρ built then rt.emitter.deliver ρ μ built else [] := by
  simp only [hookEmit, emit_iff, build_eq]

/-- `__private_emit_event` (`emit::emit!(evt: …)`): optional template override, call-site properties in front
    of the event's own; then as `emit_iff`. -/
theorem hook_emit_event_iff (rt : Rt) (cs : Option Flt) (x : Evt) (tpl : Option String)
    (props : List (String × Val)) :
    let built : Evt :=
      ⟨x.mdl, tpl.getD x.tpl, x.extent <|> rt.clk.map Extent.point, props ++ x.props ++ rt.amb⟩
    (hookEmitEvent ρ μ rt cs x tpl props).filterMap Obs.dlv? =
      if (effective cs rt.filter).eval ρ built then rt.emitter.deliver ρ μ built else [] := by
  simp only [hookEmitEvent, emit_iff, build_eq]

/-- What lies between the root of a destination tree and one of its leaves, as far as it can change or stop
    the event: an enclosing filter wrapping, an enclosing mapping, an enclosing nested runtime. -/
inductive Step where
  | wrapF (f : Flt)
  | wrapM (g : Nat)
  | rt (f : Flt) (amb : List (String × Val)) (clk : Option Nat)

/-- The leaf occurrences of a tree, left to right, each with the steps enclosing it (outermost first).
    A `None` option contributes no occurrence; the transparent layers contribute no step. -/
def occs : Emt → List (List Step × Nat)
  | .leaf i => [([], i)]
  | .fnLeaf i => [([], i)]
  | .empty => []
  | .and a b => occs a ++ occs b
  | .opt none => []
  | .opt (some e) => occs e
  | .wrapFilter f e => (occs e).map fun o => (Step.wrapF f :: o.1, o.2)
  | .wrapMap g e => (occs e).map fun o => (Step.wrapM g :: o.1, o.2)
  | .ref e => occs e
  | .boxed e => occs e
  | .shared e => occs e
  | .erased e => occs e
  | .internal e => occs e
  | .runtime f amb clk e => (occs e).map fun o => (Step.rt f amb clk :: o.1, o.2)

/-- One step: a filter wrapping lets the event through unchanged iff its filter accepts it, a mapping
    replaces it by its image, a nested runtime builds it and lets it through iff its own filter accepts. -/
def Step.apply : Step → Evt → Option Evt
  | .wrapF f, x => if f.eval ρ x then some x else none
  | .wrapM g, x => some (μ g x)
  | .rt f amb clk, x => if f.eval ρ (build amb clk x) then some (build amb clk x) else none

/-- The event that arrives at the end of a path, if every condition on the way holds. -/
def pathEvent : List Step → Evt → Option Evt
  | [], x => some x
  | s :: p, x => (s.apply ρ μ x).bind (pathEvent p)

/-- What one leaf occurrence receives. -/
def received (x : Evt) (o : List Step × Nat) : Option (Nat × Evt) :=
  (pathEvent ρ μ o.1 x).map fun y => (o.2, y)

theorem received_push (s : Step) (x : Evt) (l : List (List Step × Nat)) :
    (l.map fun o => (s :: o.1, o.2)).filterMap (received ρ μ x) =
      match s.apply ρ μ x with
      | some y => l.filterMap (received ρ μ y)
      | none => [] := by
  cases h : s.apply ρ μ x <;> simp [List.filterMap_map, Function.comp_def, received, pathEvent, h] <;> rfl

/-- **C01, exactly-once clause.** For every destination tree and every event, the deliveries are — in
    order — one per leaf occurrence whose path conditions hold (every enclosing filter wrapping accepts,
    every enclosing nested runtime's filter accepts, every enclosing option is `Some`), none for the others,
    and the event a leaf receives is the input transformed by its enclosing steps only. -/
theorem deliver_exactly_once (e : Emt) (x : Evt) :
    e.deliver ρ μ x = (occs e).filterMap (received ρ μ x) := by
  fun_induction occs e generalizing x with
  | case7 f e ih =>
    rw [deliver_wrapFilter, received_push]
    cases h : f.eval ρ x <;> simp [Step.apply, h, ih]
  | case8 g e ih => rw [deliver_wrapMap, received_push]; simp [Step.apply, ih]
  | case14 f amb clk e ih =>
    rw [deliver_runtime, received_push]
    cases h : f.eval ρ (build amb clk x) <;> simp [Step.apply, h, ih]
  | _ => simp_all [received, pathEvent]

/-- No leaf occurrence ever receives an event twice: the receiving leaves are a sublist of the occurrences. -/
theorem deliver_at_most_once (e : Emt) (x : Evt) :
    ((e.deliver ρ μ x).map Prod.fst).Sublist ((occs e).map Prod.snd) := by
  rw [deliver_exactly_once, List.map_filterMap]
  refine Assoc.filterMap_sublist_map _ _ (fun o b h => ?_) _
  simp only [received, Option.map_map, Option.map_eq_some_iff] at h
  obtain ⟨_, _, rfl⟩ := h
  rfl

/-- When every path condition holds, every leaf occurrence receives exactly once, in order. -/
theorem deliver_all (e : Emt) (x : Evt) (h : ∀ o ∈ occs e, (pathEvent ρ μ o.1 x).isSome) :
    (e.deliver ρ μ x).map Prod.fst = (occs e).map Prod.snd := by
  rw [deliver_exactly_once]
  generalize occs e = l at h
  induction l with
  | nil => rfl
  | cons o l ih =>
    have ho := h o (by simp)
    obtain ⟨y, hy⟩ := Option.isSome_iff_exists.mp ho
    simp only [List.filterMap_cons, received, hy, Option.map_some, List.map_cons]
    rw [← ih (fun o' ho' => h o' (by simp [ho']))]

def Step.map? : Step → Option Nat
  | .wrapM g => some g
  | .wrapF _ => none
  | .rt _ _ _ => none

def Step.isRt : Step → Bool
  | .rt _ _ _ => true
  | .wrapF _ => false
  | .wrapM _ => false

/-- Below no nested runtime, the event a leaf receives is the input transformed by the enclosing mappings
    (outermost first) and by nothing else. -/
theorem path_maps_only (p : List Step) (x y : Evt) (hp : ∀ s ∈ p, s.isRt = false)
    (h : pathEvent ρ μ p x = some y) : y = (p.filterMap Step.map?).foldl (fun acc g => μ g acc) x := by
  induction p generalizing x with
  | nil => simpa [pathEvent] using h.symm
  | cons s p ih =>
    have hp' : ∀ s' ∈ p, s'.isRt = false := fun s' hs' => hp s' (by simp [hs'])
    cases s with
    | wrapF f =>
      rw [List.filterMap_cons_none rfl]
      simp only [pathEvent, Step.apply] at h
      split at h
      · exact ih x hp' (by simpa using h)
      · simp at h
    | wrapM g =>
      rw [List.filterMap_cons_some (f := Step.map?) (b := g) rfl, List.foldl_cons]
      simp only [pathEvent, Step.apply, Option.bind_some] at h
      exact ih (μ g x) hp' h
    | rt f amb clk => simpa [Step.isRt] using hp (.rt f amb clk) (by simp)

/-- The headline form: through a runtime, each leaf occurrence of the emitter receives the built event
    (transformed by its enclosing steps) exactly once iff the effective filter accepts the built event and the
    occurrence's own path conditions hold; if the effective filter rejects, nobody receives anything. -/
theorem emit_exactly_once (rt : Rt) (cs : Option Flt) (x : Evt) :
    (emit ρ μ rt cs x).filterMap Obs.dlv? =
      if (effective cs rt.filter).eval ρ (build rt.amb rt.clk x)
        then (occs rt.emitter).filterMap (received ρ μ (build rt.amb rt.clk x)) else [] := by
  rw [emit_iff, deliver_exactly_once]

theorem eval_and (a b : Flt) (x : Evt) : (Flt.and a b).eval ρ x = (a.eval ρ x && b.eval ρ x) := by
  simp only [Flt.eval, Flt.evalTrace]; split <;> simp_all

theorem eval_or (a b : Flt) (x : Evt) : (Flt.or a b).eval ρ x = (a.eval ρ x || b.eval ρ x) := by
  simp only [Flt.eval, Flt.evalTrace]; split <;> simp_all

theorem eval_opt (o : Option Flt) (x : Evt) : (Flt.opt o).eval ρ x = (o.map fun f => f.eval ρ x).getD true := by
  cases o <;> rfl

theorem eval_empty (x : Evt) : Flt.empty.eval ρ x = true := rfl

theorem eval_always (x : Evt) : Flt.always.eval ρ x = true := rfl

/-- `And` asks the left side first and the right side only if the left accepted. -/
theorem calls_and (a b : Flt) (x : Evt) :
    (Flt.and a b).calls ρ x = a.calls ρ x ++ (if a.eval ρ x then b.calls ρ x else []) := by
  simp only [Flt.calls, Flt.eval, Flt.evalTrace]; split <;> simp_all

/-- `Or` asks the left side first and the right side only if the left rejected. -/
theorem calls_or (a b : Flt) (x : Evt) :
    (Flt.or a b).calls ρ x = a.calls ρ x ++ (if a.eval ρ x then [] else b.calls ρ x) := by
  simp only [Flt.calls, Flt.eval, Flt.evalTrace]; split <;> simp_all

/-- Every leaf of a filter tree is asked about exactly the event the tree was asked about — so, by `emit_log`,
    every leaf of the effective filter sees the fully built event (own then ambient properties, own-or-clock
    extent), never the caller's. -/
theorem calls_same_event (f : Flt) (x : Evt) : ∀ o ∈ f.calls ρ x, ∃ i, o = Obs.flt i x := by
  unfold Flt.calls
  fun_induction Flt.evalTrace ρ f x <;> simp_all +zetaDelta
  all_goals rintro o (h | h) <;> simp_all

/-- One layer around a filter changes neither the verdict nor the leaf calls (by definition in the model; that the Rust
    wrappers forward is the streams' to check). -/
theorem eval_layers (f : Flt) (x : Evt) :
    (Flt.ref f).evalTrace ρ x = f.evalTrace ρ x ∧ (Flt.boxed f).evalTrace ρ x = f.evalTrace ρ x ∧
    (Flt.shared f).evalTrace ρ x = f.evalTrace ρ x ∧ (Flt.erased f).evalTrace ρ x = f.evalTrace ρ x ∧
    (Flt.internal f).evalTrace ρ x = f.evalTrace ρ x :=
  ⟨rfl, rfl, rfl, rfl, rfl⟩

/-- One layer around an emitter changes nothing it does with an event (by definition). -/
theorem run_layers (e : Emt) (x : Evt) :
    (Emt.ref e).run ρ μ x = e.run ρ μ x ∧ (Emt.boxed e).run ρ μ x = e.run ρ μ x ∧
    (Emt.shared e).run ρ μ x = e.run ρ μ x ∧ (Emt.erased e).run ρ μ x = e.run ρ μ x ∧
    (Emt.internal e).run ρ μ x = e.run ρ μ x :=
  ⟨rfl, rfl, rfl, rfl, rfl⟩

/-- One layer around an emitter changes neither the flush result nor the timeouts the leaves see (by
    definition). -/
theorem flush_layers (e : Emt) (t : Nat) :
    (Emt.ref e).flush φ t = e.flush φ t ∧ (Emt.boxed e).flush φ t = e.flush φ t ∧
    (Emt.shared e).flush φ t = e.flush φ t ∧ (Emt.erased e).flush φ t = e.flush φ t ∧
    (Emt.internal e).flush φ t = e.flush φ t :=
  ⟨rfl, rfl, rfl, rfl, rfl⟩

/-- Remove every transparent layer, at every depth. -/
def stripF : Flt → Flt
  | .leaf i => .leaf i
  | .always => .always
  | .empty => .empty
  | .and a b => .and (stripF a) (stripF b)
  | .or a b => .or (stripF a) (stripF b)
  | .opt none => .opt none
  | .opt (some f) => .opt (some (stripF f))
  | .ref f => stripF f
  | .boxed f => stripF f
  | .shared f => stripF f
  | .erased f => stripF f
  | .internal f => stripF f

def stripE : Emt → Emt
  | .leaf i => .leaf i
  | .fnLeaf i => .fnLeaf i
  | .empty => .empty
  | .and a b => .and (stripE a) (stripE b)
  | .opt none => .opt none
  | .opt (some e) => .opt (some (stripE e))
  | .wrapFilter f e => .wrapFilter (stripF f) (stripE e)
  | .wrapMap g e => .wrapMap g (stripE e)
  | .ref e => stripE e
  | .boxed e => stripE e
  | .shared e => stripE e
  | .erased e => stripE e
  | .internal e => stripE e
  | .runtime f amb clk e => .runtime (stripF f) amb clk (stripE e)

/-- **Erased and generic paths are observationally identical (filters).** A filter tree and the same tree
    with all layers removed give the same verdict and make the same leaf calls, on every event. -/
theorem evalTrace_strip (f : Flt) (x : Evt) : (stripF f).evalTrace ρ x = f.evalTrace ρ x := by
  fun_induction stripF f <;> simp_all [Flt.evalTrace]

/-- **Erased and generic paths are observationally identical (emitters, emitting).** -/
theorem run_strip (e : Emt) (x : Evt) : (stripE e).run ρ μ x = e.run ρ μ x := by
  fun_induction stripE e generalizing x <;> simp_all [Emt.run, evalTrace_strip, emitCore]

/-- **Erased and generic paths are observationally identical (emitters, flushing).** -/
theorem flush_strip (e : Emt) (t : Nat) : (stripE e).flush φ t = e.flush φ t := by
  fun_induction stripE e generalizing t <;> simp_all [Emt.flush]

/-- With a call-site filter the runtime's own filter is never consulted: the complete effect log does not
    depend on it. -/
theorem call_site_overrides (f₁ f₂ : Flt) (e : Emt) (amb : List (String × Val)) (clk : Option Nat)
    (w : Flt) (x : Evt) :
    emit ρ μ ⟨f₁, e, amb, clk⟩ (some w) x = emit ρ μ ⟨f₂, e, amb, clk⟩ (some w) x := rfl

/-- Without one, the runtime's filter decides. -/
theorem no_call_site_uses_runtime_filter (rt : Rt) (x : Evt) :
    (emit ρ μ rt none x).filterMap Obs.dlv? =
      if rt.filter.eval ρ (build rt.amb rt.clk x) then rt.emitter.deliver ρ μ (build rt.amb rt.clk x) else [] :=
  emit_iff ρ μ rt none x

/-- `Runtime::emit` and the runtime used as an `Emitter` are the same function (the model defines both by
    `emitCore`). -/
theorem runtime_emit_is_emitter_impl (rt : Rt) (x : Evt) :
    emit ρ μ rt none x = (Emt.runtime rt.filter rt.amb rt.clk rt.emitter).run ρ μ x := rfl

/-- Emitting straight to the emitter involves neither the filter, nor the clock, nor the ambient context. -/
theorem direct_bypass (f₁ f₂ : Flt) (e : Emt) (amb₁ amb₂ : List (String × Val)) (clk₁ clk₂ : Option Nat)
    (x : Evt) :
    direct ρ μ ⟨f₁, e, amb₁, clk₁⟩ x = direct ρ μ ⟨f₂, e, amb₂, clk₂⟩ x ∧
    direct ρ μ ⟨f₁, e, amb₁, clk₁⟩ x = e.run ρ μ x :=
  ⟨rfl, rfl⟩

/-- Emitting straight to the emitter is what emitting would do with an accept-all filter, no clock and no ambient
    properties. -/
theorem direct_is_unfiltered_emit (rt : Rt) (x : Evt) :
    direct ρ μ rt x = emit ρ μ ⟨.always, rt.emitter, [], none⟩ none x := by
  have hb : build [] none x = x := by cases x with | mk m t ex ps => cases ex <;> simp [build]
  simp [direct, emit, emitCore, firstDefined, Flt.evalTrace, hb]

/-- `And` flushes both sides, each with half the timeout, and succeeds iff both do. -/
theorem flush_and (a b : Emt) (t : Nat) :
    (Emt.and a b).flush φ t =
      (((a.flush φ (t / 2)).1 && (b.flush φ (t / 2)).1), (a.flush φ (t / 2)).2 ++ (b.flush φ (t / 2)).2) := rfl

/-- Wrappings, nested runtimes and `Some` defer to the wrapped emitter; `None`, `Empty` and function
    emitters have nothing to flush; a leaf flushes itself and logs the timeout it was given. -/
theorem flush_defers (f : Flt) (g : Nat) (amb : List (String × Val)) (clk : Option Nat) (e : Emt) (i t : Nat) :
    (Emt.wrapFilter f e).flush φ t = e.flush φ t ∧ (Emt.wrapMap g e).flush φ t = e.flush φ t ∧
    (Emt.runtime f amb clk e).flush φ t = e.flush φ t ∧ (Emt.opt (some e)).flush φ t = e.flush φ t ∧
    (Emt.opt none).flush φ t = (true, []) ∧ Emt.empty.flush φ t = (true, []) ∧
    (Emt.fnLeaf i).flush φ t = (true, []) ∧ (Emt.leaf i).flush φ t = (φ i t, [(i, t)]) :=
  ⟨rfl, rfl, rfl, rfl, rfl, rfl, rfl, rfl⟩

/-- The flushable leaves of a tree, each with the number of `And`s enclosing it. -/
def flushOccs : Emt → List (Nat × Nat)
  | .leaf i => [(0, i)]
  | .fnLeaf _ => []
  | .empty => []
  | .and a b => (flushOccs a ++ flushOccs b).map fun o => (o.1 + 1, o.2)
  | .opt none => []
  | .opt (some e) => flushOccs e
  | .wrapFilter _ e => flushOccs e
  | .wrapMap _ e => flushOccs e
  | .ref e => flushOccs e
  | .boxed e => flushOccs e
  | .shared e => flushOccs e
  | .erased e => flushOccs e
  | .internal e => flushOccs e
  | .runtime _ _ _ e => flushOccs e

/-- Flushing a tree flushes every flushable leaf exactly once, with the timeout halved once per enclosing
    `And`, and succeeds iff every one of them does. -/
theorem flush_spec (e : Emt) (t : Nat) :
    e.flush φ t =
      ((flushOccs e).all (fun o => φ o.2 (t / 2 ^ o.1)), (flushOccs e).map fun o => (o.2, t / 2 ^ o.1)) := by
  fun_induction flushOccs e generalizing t <;>
    simp_all [Emt.flush, List.all_append, List.all_map, List.map_append, List.map_map, Function.comp_def,
      Nat.div_div_eq_div_mul, ← Nat.pow_succ']

/-- `deliver_all`: a tree with a mapping, an accepting filter wrapping and an erased layer. -/
example : ∀ o ∈ occs (.and (.wrapMap 0 (.leaf 1)) (.erased (.wrapFilter .always (.opt (some (.fnLeaf 2)))))),
    (pathEvent (fun _ _ => true) (fun _ x => x) o.1 ⟨"m", "t", none, []⟩).isSome := by decide +kernel

/-- `path_maps_only`: a path through a filter wrapping and two mappings, no nested runtime. -/
example : (∀ s ∈ [Step.wrapM 0, Step.wrapF .always, Step.wrapM 1], s.isRt = false) ∧
    pathEvent (fun _ _ => true) (fun g x => { x with tpl := x.tpl ++ toString g })
      [Step.wrapM 0, Step.wrapF .always, Step.wrapM 1] ⟨"m", "t", none, []⟩ = some ⟨"m", "t01", none, []⟩ := by
  decide +kernel

/-- The filter can reject because of an *ambient* property and a *clock-assigned* extent: the built event,
    not the caller's, is what is tested (a runtime whose leaf filter 0 demands both). -/
example :
    let ρ : Nat → Evt → Bool := fun _ x => x.props.any (·.1 == "amb") && x.extent.isSome
    let rt : Rt := ⟨.leaf 0, .leaf 7, [("amb", .int 1)], some 5⟩
    (emit ρ (fun _ x => x) rt none ⟨"m", "t", none, [("own", .int 0)]⟩).filterMap Obs.dlv? =
      [(7, ⟨"m", "t", some (.point 5), [("own", .int 0), ("amb", .int 1)]⟩)] ∧
    (emit ρ (fun _ x => x) { rt with amb := [] } none ⟨"m", "t", none, [("own", .int 0)]⟩).filterMap Obs.dlv? = [] := by
  decide +kernel

section macros
open EmitModel.KindText (Kind)

/-- `emit::debug!/info!/warn!/error!` (and `emit::emit!`): the event is the control parameters, the call-site
    properties with the macro's level at its sorted position in front of the `props:` base; then as `emit_iff`,
    with the call-site `when` (if any) as the effective filter. -/
theorem macro_emit_iff (rt : Rt) (cs : Option Flt) (m : LevelMacro) (mdl tpl : String) (extent : Option Extent)
    (base props : List (String × Val)) :
    let built : Evt := ⟨mdl, tpl, extent <|> rt.clk.map Extent.point, macroProps m props ++ base ++ rt.amb⟩
    (macroEmit ρ μ rt cs m mdl tpl extent base props).filterMap Obs.dlv? =
      if (effective cs rt.filter).eval ρ built then rt.emitter.deliver ρ μ built else [] :=
  hook_emit_iff ρ μ rt cs mdl tpl extent base (macroProps m props)

/-- `emit::<o>!(rt, [when,] evt: emit::<m>_evt!(mdl, extent, props: base, "tpl", …) [, "tpl'", …])`: the inner
    macro's level sits among the event's own properties, the outer macro's level and properties go in front. -/
theorem macro_emit_evt_iff (rt : Rt) (cs : Option Flt) (m o : LevelMacro) (mdl tpl : String)
    (extent : Option Extent) (base props : List (String × Val)) (tpl' : Option String)
    (props' : List (String × Val)) :
    let built : Evt := ⟨mdl, tpl'.getD tpl, extent <|> rt.clk.map Extent.point,
      macroProps o props' ++ (macroProps m props ++ base) ++ rt.amb⟩
    (macroEmitEvt ρ μ rt cs o (macroEvt m mdl tpl extent base props) tpl' props').filterMap Obs.dlv? =
      if (effective cs rt.filter).eval ρ built then rt.emitter.deliver ρ μ built else [] :=
  hook_emit_event_iff ρ μ rt cs (macroEvt m mdl tpl extent base props) tpl' (macroProps o props')

/-- **The filter that enables a span sees the macro's level.** The verdict is the effective filter's (the
    call-site `when` if given, else the runtime's) on the start event, whose properties END with `lvl` = the
    level of the macro — and carry no `lvl` from the macro at all for plain `#[span]` / `new_span!`. -/
theorem span_filter_sees_level (rt : Rt) (cs : Option Flt) (m : LevelMacro) (mdl name : String)
    (ctxtProps ids : List (String × Val)) :
    (spanEnabled ρ rt cs m mdl name ctxtProps ids).1 =
      (effective cs rt.filter).eval ρ (spanStartEvt m mdl name ctxtProps ids rt.amb) ∧
    (spanStartEvt m mdl name ctxtProps ids rt.amb).props =
      [("evt_kind", .kind .span), ("span_name", .str name)] ++ ctxtProps ++ ids ++ rt.amb ++
        (match m.level with | some l => [("lvl", .lvl l)] | none => []) ∧
    (spanStartEvt m mdl name ctxtProps ids rt.amb).mdl = mdl ∧
    (spanStartEvt m mdl name ctxtProps ids rt.amb).extent = none := by
  refine ⟨?_, ?_, rfl, rfl⟩
  · simp only [spanEnabled, firstDefined_eq]; rfl
  · cases m <;> rfl

/-- **A span completes iff that filter accepted it.** Everything the destinations receive from a
    macro-instrumented span: the body's own emission, then — iff the effective filter accepted the start event —
    exactly the deliveries of ONE completion event (`spanDoneEvt`: by its definition the macro's level first, the frame's
    ambient properties last). A rejected span delivers nothing of its own and pushes nothing onto the context. -/
theorem span_macro_completes_iff (rt : Rt) (cs : Option Flt) (m : LevelMacro) (mdl name : String)
    (ctxtProps ids : List (String × Val)) (body : Evt) :
    let enabled := (effective cs rt.filter).eval ρ (spanStartEvt m mdl name ctxtProps ids rt.amb)
    let inner := if enabled then ctxtProps ++ ids ++ rt.amb else rt.amb
    (spanMacro ρ μ rt cs m mdl name ctxtProps ids body).filterMap Obs.dlv? =
      rt.emitter.deliver ρ μ { body with props := body.props ++ inner } ++
        (if enabled then rt.emitter.deliver ρ μ (spanDoneEvt m mdl name rt.clk inner) else []) := by
  have hcalls : (spanEnabled ρ rt cs m mdl name ctxtProps ids).2.filterMap Obs.dlv? = [] := by
    simp only [spanEnabled, firstDefined_eq, calls_dlv]
  have he := (span_filter_sees_level ρ rt cs m mdl name ctxtProps ids).1
  simp only [spanMacro, List.filterMap_append, hcalls, List.nil_append, he, spanInner, Emt.deliver]
  cases (effective cs rt.filter).eval ρ (spanStartEvt m mdl name ctxtProps ids rt.amb) <;> simp

/-- The completion event of an accepted span is a span for `is_span_filter()` and not a metric for
    `is_metric_filter()`, whatever level the macro put in front of `evt_kind`. -/
theorem span_done_is_span (m : LevelMacro) (mdl name : String) (clk : Option Nat) (inner : List (String × Val)) :
    kindLeaf .span (spanDoneEvt m mdl name clk inner) = true ∧
    kindLeaf .metric (spanDoneEvt m mdl name clk inner) = false := by
  cases m <;> simp [kindLeaf, spanDoneEvt, lvlProp, LevelMacro.level, lookupFirst, Val.toKind]

/-- `KindFilter` accepts exactly the events whose FIRST `evt_kind` property reads as the wanted kind (typed, or a
    text that parses to it); an event without one is rejected. -/
theorem kind_leaf_spec (k : Kind) (x : Evt) :
    kindLeaf k x = true ↔ ∃ v, lookupFirst "evt_kind" x.props = some v ∧ v.toKind = some k := by
  unfold kindLeaf
  cases h : lookupFirst "evt_kind" x.props with
  | none => simp
  | some v => simp

example : kindLeaf .metric ⟨"m", "t", none, [("a", .int 1), ("evt_kind", .str " METRIC "), ("evt_kind", .kind .span)]⟩ = true := by
  decide +kernel
example : kindLeaf .span ⟨"m", "t", none, [("a", .int 1)]⟩ = false := by decide +kernel

/-- Non-vacuity of `span_macro_completes_iff`, both ways: a `warn` span under a leaf that demands at least
    `error` (leaf 0 = `min_filter(Error)`) is rejected — the body sees only the outer ambient properties and
    nothing completes; an `error` span is accepted, its body sees the pushed properties and it completes once. -/
example :
    let ρ : Nat → Evt → Bool := fun _ x => minLevelLeaf ⟨.error, none⟩ x
    let rt : Rt := ⟨.leaf 0, .leaf 9, [("amb", .int 1)], some 5⟩
    let body : Evt := ⟨"m", "body", none, []⟩
    (spanMacro ρ (fun _ x => x) rt none .warn "m" "sp" [("n", .int 7)] [] body).filterMap Obs.dlv? =
      [(9, ⟨"m", "body", none, [("amb", .int 1)]⟩)] ∧
    (spanMacro ρ (fun _ x => x) rt none .error "m" "sp" [("n", .int 7)] [] body).filterMap Obs.dlv? =
      [(9, ⟨"m", "body", none, [("n", .int 7), ("amb", .int 1)]⟩),
       (9, ⟨"m", "sp", some (.range 5 5),
          [("lvl", .lvl .error), ("evt_kind", .kind .span), ("span_name", .str "sp"), ("n", .int 7), ("amb", .int 1)]⟩)] := by
  decide +kernel

end macros

end EmitModel.C01
