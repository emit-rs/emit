/-
  Thm/C10.lean — property C10: rolling files — acknowledged events are durable and no record is ever mangled.
  The property theorems and one corollary of two of them, `retry_kept`; the machinery is in Lemmas/FileSet*.lean.

  Setting (Model/FileSet.lean): the worker `onBatch` runs over a filesystem whose every call takes its outcome from
  an arbitrary fault plan `Nat → Fault` (ok / error / short write then error / crash losing any suffix of the
  unsynced bytes of every file and any never-synced directory entry). Histories are arbitrary lists of batches
  (any clock readings, ids, batches — a retried remainder is just another batch) and restarts.
  Hypotheses stated where used: the separator is one byte `c` (`cfg.sep = [c]`), and every submitted event ends
  with it and contains it nowhere else (`WfEvents E c`, what `FileSetInner::emit` + the JSON writer guarantee and
  the harness asserts). `E` is the set of event buffers submitted so far (any superset works).

  OBLIGATIONS (audited by `check` with `#print axioms`):
    chunk_invariant, records_wellformed, torn_only_after_fault, calm_plan_no_torn, acked_durable,
    acked_never_lost, failed_batch_rewritten, reuse_recovers, recovery_separator_first, emit_appends_separator,
    failed_format_contributes_nothing, retried_prefix_durable, batch_done_all_durable,
    legacy_retry_leaves_prefix_unsynced
-/
import EmitModel.Lemmas.FileSetAcked
import EmitModel.Lemmas.FileSetRun
import EmitModel.Lemmas.FileSetKept
import EmitModel.Model.FileSetLegacy

namespace EmitModel.C10
open EmitModel.FileSet

/-- **Chunk invariant** (DESIGN A.3). For every configuration with a one-byte separator, every fault plan and
    every history from a state satisfying the invariant (e.g. the empty directory): names stay unique, every
    file of the set holds content of the form `(event | sep | torn·sep)* (torn)?`, and the file the worker
    holds is a member of the set, exists with a durable directory entry and — unless flagged for recovery — ends
    on a record boundary. -/
theorem chunk_invariant {cfg : Config} {E : List Nat → Prop} {c : Nat} (hsep : cfg.sep = [c])
    (plan : Nat → Fault) (ops : List Op) :
    ∀ (s : St), Inv cfg E c s → (∀ op ∈ ops, ∀ e ∈ op.events, E e) → Inv cfg E c (run cfg plan s ops) :=
  run_inv (.inl hsep) plan ops

/-- **No record is ever mangled.** In every state reachable under any fault plan, every separator-delimited
    record of every file of the set is empty, a complete submitted event, or a non-empty strict prefix of one
    submitted event — never bytes of two events. -/
theorem records_wellformed {cfg : Config} {E : List Nat → Prop} {c : Nat} (hsep : cfg.sep = [c])
    (hwf : WfEvents E c) (plan : Nat → Fault) (ops : List Op) (s0 : St) (h0 : Inv cfg E c s0)
    (hE : ∀ op ∈ ops, ∀ e ∈ op.events, E e) (n : List Nat) (f : File)
    (hget : fsGet (run cfg plan s0 ops).fs n = some f) (hmem : isMember cfg.pfx cfg.ext n = true) :
    ∀ r ∈ splitOn c f.content,
      r = [] ∨ E (r ++ [c]) ∨ (r ≠ [] ∧ ∃ e, E e ∧ r <+: e ∧ r.length < e.length) := by
  have hinv := chunk_invariant hsep plan ops s0 h0 hE
  intro r hr
  rcases (hinv.good n f hget hmem).records hwf r hr with h | h | ⟨_, h⟩
  · exact .inl h
  · exact .inr (.inl h)
  · exact .inr (.inr h)

/-- **No torn record before the first fault**: as long as no short write has put bytes and no crash has happened
    (`faulted = false`: one flag for the whole directory, set by those two outcomes and never cleared), every
    record is empty or a complete event. Nothing here ties a torn record to the file or the call of the fault.
    (That a torn piece is the *last* thing in its file or is followed by the separator is the shape
    `Good`/`Clean` in `chunk_invariant`.) -/
theorem torn_only_after_fault {cfg : Config} {E : List Nat → Prop} {c : Nat} (hsep : cfg.sep = [c])
    (hwf : WfEvents E c) (plan : Nat → Fault) (ops : List Op) (s0 : St) (h0 : Inv cfg E c s0)
    (hE : ∀ op ∈ ops, ∀ e ∈ op.events, E e) (hcalm : (run cfg plan s0 ops).faulted = false)
    (n : List Nat) (f : File) (hget : fsGet (run cfg plan s0 ops).fs n = some f)
    (hmem : isMember cfg.pfx cfg.ext n = true) :
    ∀ r ∈ splitOn c f.content, r = [] ∨ E (r ++ [c]) := by
  have hinv := chunk_invariant hsep plan ops s0 h0 hE
  intro r hr
  rcases (hinv.good n f hget hmem).records hwf r hr with h | h | ⟨ht, _⟩
  · exact .inl h
  · exact .inr h
  · rw [hcalm] at ht; cases ht

/-- The flag means what it says: under any fault plan that only makes calls fail (errors at any calls, but no
    short write and no crash), from a state without torn records, every record of every file of the set in every
    reachable state is empty or a complete event — plain IO errors never tear or mangle anything. -/
theorem calm_plan_no_torn {cfg : Config} {E : List Nat → Prop} {c : Nat} (hsep : cfg.sep = [c])
    (hwf : WfEvents E c) (plan : Nat → Fault) (hplan : ∀ i, plan i = .ok ∨ plan i = .err) (ops : List Op) (s0 : St)
    (h0 : Inv cfg E c s0) (hf0 : s0.faulted = false) (hE : ∀ op ∈ ops, ∀ e ∈ op.events, E e)
    (n : List Nat) (f : File) (hget : fsGet (run cfg plan s0 ops).fs n = some f)
    (hmem : isMember cfg.pfx cfg.ext n = true) :
    ∀ r ∈ splitOn c f.content, r = [] ∨ E (r ++ [c]) :=
  torn_only_after_fault hsep hwf plan ops s0 h0 hE ((run_calm (.inl hsep) hplan ops s0 h0 hE).trans hf0) n f hget hmem

/-- **Acknowledged events are durable.** If `on_batch` returns Ok (under any fault plan, from any state satisfying
    the invariant) then all events of the batch went to ONE file of the set — the one the worker now holds — whose
    directory entry is durable, which has no unsynced bytes left, and in whose synced content every event of the
    batch occurs complete, starting on a record boundary. -/
theorem acked_durable {cfg : Config} {E : List Nat → Prop} {c : Nat} (hsep : cfg.sep = [c]) (hwf : WfEvents E c)
    (plan : Nat → Fault) (now : Parts) (id : Nat) (b : Batch) (s s' : St) (hinv : Inv cfg E c s)
    (hE : ∀ e ∈ b.rest, E e) (h : onBatch cfg plan now id b s = (.ok, s')) :
    ∃ a f, s'.active = some a ∧ isMember cfg.pfx cfg.ext a.name = true ∧ fsGet s'.fs a.name = some f ∧
      f.durable = true ∧ f.unsynced = [] ∧ ∀ e ∈ b.rest, Occurs c e f.synced := by
  obtain ⟨a, s1, a', hacq, hn, hact, hfs⟩ := onBatch_ok h
  obtain ⟨hm, f, hget, hrest⟩ := laid_synced hwf hinv hacq b.rest hE (List.prefix_refl _)
  exact ⟨a', f, hact, hn ▸ hm, by rw [hfs, hn, hsep]; exact hget, hrest⟩

/-- **No later step loses an acknowledged event.** After an Ok batch, whatever happens next (more batches,
    restarts, failures, crashes — any fault plan), every event of the batch still occurs complete in the synced
    content of the same file, with a durable directory entry — unless the worker itself deleted that file
    (a `deleted` entry in the log, i.e. retention, which C11 bounds). -/
theorem acked_never_lost {cfg : Config} {E : List Nat → Prop} {c : Nat} (hsep : cfg.sep = [c]) (hwf : WfEvents E c)
    (plan : Nat → Fault) (now : Parts) (id : Nat) (b : Batch) (s s' : St) (hinv : Inv cfg E c s)
    (hE : ∀ e ∈ b.rest, E e) (h : onBatch cfg plan now id b s = (.ok, s')) (ops : List Op)
    (hE' : ∀ op ∈ ops, ∀ e ∈ op.events, E e) :
    ∃ a, s'.active = some a ∧
      (Ev.deleted a.name ∈ (run cfg plan s' ops).log.drop s'.log.length ∨
        ∃ f', fsGet (run cfg plan s' ops).fs a.name = some f' ∧ f'.durable = true ∧
          ∀ e ∈ b.rest, Occurs c e f'.synced) := by
  obtain ⟨a, f, ha, _, hget, hd, _, hocc⟩ := acked_durable hsep hwf plan now id b s s' hinv hE h
  have hinv' : Inv cfg E c s' := by
    have := onBatch_inv (.inl hsep) plan now id b s hE hinv
    rw [h] at this; exact this
  obtain ⟨⟨extra, hlog, _, _, hdur⟩, _⟩ := run_rel (.inl hsep) plan ops s' hinv' hE'
  refine ⟨a, ha, ?_⟩
  rcases hdur a.name f hget hd with hdel | ⟨f', hget', hd', hpre⟩
  · left; rw [hlog]; simpa using hdel
  · right
    refine ⟨f', hget', hd', fun e he => ?_⟩
    obtain ⟨t, ht⟩ := hpre
    rw [← ht]; exact (hocc e he).append t

/-- **A failed batch is handed back from the event whose write failed.** If `on_batch` asks for a retry then the
    worker has let go of its file (so the next attempt starts a new file or reopens one with the recovery flag),
    and either nothing of the batch was touched (`b' = b`: the file could not be obtained), or the events before
    the cursor of `b'` were each written in full, the write of the event under the cursor failed, and `b'` is `b`
    advanced over exactly the written ones — its remainder starts with the failed event; the state handed back is
    the one after the written prefix (if any) was flushed and synced (`syncWritten`, see `retried_prefix_durable`). -/
theorem failed_batch_rewritten {cfg : Config} {E : List Nat → Prop} {c : Nat} (hsep : cfg.sep = [c])
    (plan : Nat → Fault) (now : Parts) (id : Nat) (b b' : Batch) (s s' : St) (hinv : Inv cfg E c s)
    (hE : ∀ e ∈ b.rest, E e) (h : onBatch cfg plan now id b s = (.retry b', s')) :
    s'.active = none ∧
      (b' = b ∨ ∃ pre e post a0 s0 a1 s1, acquire cfg plan now id b s = .ok a0 s0 ∧
        b.rest = pre ++ e :: post ∧ b'.rest = e :: post ∧ b' = pre.foldl Batch.advance b ∧
        writeEvents cfg plan a0 b s0 pre = (.ok, some a1, s1) ∧ ∃ s2, writeEvent cfg plan a1 e s1 = .err s2 ∧
          syncWritten plan a0.name b b' s2 = (.retry b', s')) := by
  refine ⟨?_, ?_⟩
  · have := (onBatch_spec (N := fun _ => True) (.inl hsep) plan now id b s trivial hE hinv).dropped
    rw [h] at this
    exact this (by simp)
  · unfold onBatch at h
    cases hacq : acquire cfg plan now id b s <;> simp only [hacq] at h
    case err => cases h; exact .inl rfl
    case crash => cases h
    rename_i a0 s0
    rcases writeEvents_cases b.rest a0 b s0 with ⟨a', s2, hw⟩ | ⟨pre, e, post, a1, s1, s2, k1, k3, k4, hw⟩ | ⟨s2, hw⟩ <;>
      rw [hw] at h <;> simp only at h
    · -- everything written: flush and sync end in Ok, no-retry or a crash
      cases hf : flushFile plan s2 <;> simp only [hf] at h <;> try cases h
      rename_i s3
      cases hy : syncAll plan a'.name s3 <;> simp only [hy] at h <;> cases h
    · obtain ⟨rfl, _⟩ := syncWritten_retry h
      exact .inr ⟨pre, e, post, a0, s0, a1, s1, rfl, k1, Batch.rest_foldl_advance pre k1, rfl, k3, s2, k4, h⟩
    · cases h

/-- **What a failed attempt wrote is durable before the rest is retried** (defect D19, fixed). If `on_batch` asks for
    a retry, then either the batch comes back untouched, or the events before the cursor of the batch handed back
    — written in full by this attempt and NOT part of the retry — are complete, on a record boundary, in the
    synced content of the file the attempt wrote to, whose directory entry is durable and which has no unsynced
    bytes left. (`hcnt`: the byte counter covers the events, as `EventBatch::push` maintains it.) -/
theorem retried_prefix_durable {cfg : Config} {E : List Nat → Prop} {c : Nat} (hsep : cfg.sep = [c])
    (hwf : WfEvents E c) (plan : Nat → Fault) (now : Parts) (id : Nat) (b b' : Batch) (s s' : St)
    (hinv : Inv cfg E c s) (hE : ∀ e ∈ b.rest, E e) (hcnt : (b.rest.map List.length).sum ≤ b.remaining)
    (h : onBatch cfg plan now id b s = (.retry b', s')) :
    b' = b ∨ ∃ pre a0 s0 f, acquire cfg plan now id b s = .ok a0 s0 ∧ b.rest = pre ++ b'.rest ∧ pre ≠ [] ∧
      isMember cfg.pfx cfg.ext a0.name = true ∧ fsGet s'.fs a0.name = some f ∧ f.durable = true ∧
      f.unsynced = [] ∧ ∀ e ∈ pre, Occurs c e f.synced := by
  rcases (failed_batch_rewritten hsep plan now id b b' s s' hinv hE h).2 with
    hb | ⟨pre, e, post, a0, s0, a1, s1, hacq, hrest, hrest', hb', hpre, s2, hfail, hsync⟩
  · exact .inl hb
  · obtain ⟨_, hcase⟩ := syncWritten_retry hsync
    cases pre with
    | nil => left; simpa using hb'
    | cons p0 pre0 =>
      right
      -- the counter moved: every written event is non-empty and the counter covers the batch
      obtain ⟨body, hbody, _⟩ := hwf p0 (hE p0 (by rw [hrest]; simp))
      have hlen : 0 < p0.length := by rw [hbody]; simp
      have hrem : b'.remaining ≠ b.remaining := by
        rw [hb', Batch.remaining_foldl_advance]
        rw [hrest] at hcnt
        simp only [List.map_append, List.map_cons, List.sum_append, List.sum_cons] at hcnt ⊢
        omega
      rcases hcase with ⟨heq, _⟩ | ⟨_, hfs⟩
      · exact absurd heq hrem
      · obtain ⟨w2, w5⟩ := writeEvents_ok (p0 :: pre0) hpre
        obtain ⟨t, ht⟩ := writeEvent_err hfail
        obtain ⟨hm, f, hget, hocc⟩ := laid_synced hwf hinv hacq (p0 :: pre0)
          (fun x hx => hE x (by rw [hrest]; exact List.mem_append_left _ hx)) (List.prefix_append _ t)
        refine ⟨p0 :: pre0, a0, s0, f, hacq, by rw [hrest, hrest'], by simp, hm, ?_, hocc⟩
        rw [hfs, ht, w2, w5, appendBytes_appendBytes, hsep]
        exact hget

/-- What a failed attempt wrote, in the words of `Kept`. It stands here because it is `failed_batch_rewritten` and
    `retried_prefix_durable` put together. -/
theorem retry_kept {cfg : Config} {E : List Nat → Prop} {c : Nat} (hsep : cfg.sep = [c]) (hwf : WfEvents E c)
    (plan : Nat → Fault) (now : Parts) (id : Nat) (b b' : Batch) (s s' : St) (hinv : Inv cfg E c s)
    (hE : ∀ e ∈ b.rest, E e) (hcnt : (b.rest.map List.length).sum ≤ b.remaining)
    (h : onBatch cfg plan now id b s = (.retry b', s')) :
    ∃ pre, b.rest = pre ++ b'.rest ∧ b' = pre.foldl Batch.advance b ∧ ∀ e ∈ pre, ∀ L, Kept cfg c L e s' := by
  -- `retried_prefix_durable` does not say that `b'` is `b` advanced over its `pre`, so `pre` is taken from
  -- `failed_batch_rewritten` first and the two prefixes are identified by cancellation
  obtain ⟨pre, hrest, hb'⟩ : ∃ pre, b.rest = pre ++ b'.rest ∧ b' = pre.foldl Batch.advance b := by
    rcases (failed_batch_rewritten hsep plan now id b b' s s' hinv hE h).2 with
      rfl | ⟨pre, e, post, _, _, _, _, _, k1, k2, k3, _⟩
    · exact ⟨[], rfl, rfl⟩
    · exact ⟨pre, by rw [k1, k2], k3⟩
  refine ⟨pre, hrest, hb', fun e he L => ?_⟩
  rcases retried_prefix_durable hsep hwf plan now id b b' s s' hinv hE hcnt h with
    rfl | ⟨pre', a0, _, f, _, hrest', _, hm, hget, hd, _, hocc⟩
  · rw [List.append_cancel_right (bs := b'.rest) (cs := []) hrest.symm] at he; cases he
  · rw [List.append_cancel_right (hrest.symm.trans hrest')] at he
    exact ⟨a0.name, hm, .inr ⟨f, hget, hd, hocc e he⟩⟩

/-- **A finished batch is durable as a whole, however many attempts it took.** Run `on_batch` under the batcher's
    retry loop (`processBatch`: any number of attempts, each with its own clock and id reading, each handed the
    remainder the previous one gave back), under any fault plan, from any state satisfying the invariant. If the
    loop ends with Ok — the moment the batch counts as processed and its flush callbacks fire (C07) — then EVERY
    event of the original batch, not only the remainder of the last attempt, is kept: complete, on a record
    boundary, in synced content of a durable file of the set — or the worker's own retention deleted a file of the
    set since the batch began (`Kept`: the deleted file is not tied to the event). And the whole loop relates its
    two ends as any sequence of worker steps does (`Rel`), so what was kept before the batch still is. -/
theorem batch_done_all_durable {cfg : Config} {E : List Nat → Prop} {c : Nat} (hsep : cfg.sep = [c])
    (hwf : WfEvents E c) (plan : Nat → Fault) :
    ∀ (atts : List (Parts × Nat)) (b : Batch) (s s' : St), Inv cfg E c s → (∀ e ∈ b.rest, E e) →
      (b.rest.map List.length).sum ≤ b.remaining → processBatch cfg plan atts b s = (.ok, s') →
      Rel cfg (fun _ => True) s s' ∧ ∀ e ∈ b.rest, Kept cfg c s.log.length e s' := by
  intro atts b s s' hinv hE hcnt h
  fun_induction processBatch cfg plan atts b s with
  | case1 b s => cases h
  | case2 now id rest b s b' s1 hob ih =>
    -- a retry: what the attempt wrote is kept, the remainder is the next attempt's batch
    have hrel1 := onBatch_rel (N := fun _ => True) (.inl hsep) plan now id b s trivial hE hinv
    have hinv1 := onBatch_inv (.inl hsep) plan now id b s hE hinv
    obtain ⟨hlen, _⟩ := onBatch_keeps hsep plan now id b s hinv hE
    rw [hob] at hrel1 hinv1 hlen
    obtain ⟨pre, hrest, hb', hkept⟩ := retry_kept hsep hwf plan now id b b' s s1 hinv hE hcnt hob
    have hcnt' : (b'.rest.map List.length).sum ≤ b'.remaining := by
      rw [hb', Batch.remaining_foldl_advance, ← hb']
      rw [hrest] at hcnt
      simp only [List.map_append, List.sum_append] at hcnt
      omega
    obtain ⟨r1, r2⟩ := ih hinv1 (fun e he => hE e (by rw [hrest]; exact List.mem_append_right _ he)) hcnt' h
    refine ⟨hrel1.trans r1, fun e he => ?_⟩
    rw [hrest] at he
    rcases List.mem_append.mp he with hp | hr
    · exact (hkept e hp _).mono hlen r1
    · exact (r2 e hr).weakenL hlen
  | case3 now id rest b s hne =>
    -- the attempt ended the loop, so it returned Ok
    have hrel1 := onBatch_rel (N := fun _ => True) (.inl hsep) plan now id b s trivial hE hinv
    rw [h] at hrel1
    refine ⟨hrel1, fun e he => ?_⟩
    obtain ⟨a, f, _, hm, hget, hd, _, hocc⟩ := acked_durable hsep hwf plan now id b s s' hinv hE h
    exact ⟨a.name, hm, .inr ⟨f, hget, hd, hocc e he⟩⟩

/-- **Reuse recovers** (1): a file reopened for reuse is always flagged for recovery (and is a member of the set
    with a durable directory entry). -/
theorem reuse_recovers (cfg : Config) (plan : Nat → Fault) (n : List Nat) (s s' : St) (a : Active)
    (h : tryOpenReuse cfg plan n s = .ok a s') :
    a.needsRecovery = true ∧ a.name = n ∧ isMember cfg.pfx cfg.ext n = true ∧
      ∃ f, fsGet s'.fs n = some f ∧ f.durable = true := by
  obtain ⟨h1, h2, h3, f, h5, h6, _⟩ := tryOpenReuse_ok h
  exact ⟨h3, h1, h2, f, h5, h6⟩

/-- **Reuse recovers** (2): a successful `write_event` on a file flagged for recovery appends the separator and
    then the event; on an unflagged file just the event; afterwards the flag is clear. -/
theorem recovery_separator_first (cfg : Config) (plan : Nat → Fault) (a a' : Active) (e : List Nat) (s s' : St)
    (h : writeEvent cfg plan a e s = .ok a' s') :
    s'.fs = appendBytes s.fs a.name ((if a.needsRecovery then cfg.sep else []) ++ e) ∧ a'.needsRecovery = false ∧
      a'.name = a.name := by
  obtain ⟨h1, _, h4, h5, _⟩ := writeEvent_ok h
  exact ⟨h1, h5, h4⟩

/-- **`emit` hands the worker well-formed events** (`FileSetInner::emit`): whatever the writer produced, the
    buffer sent to the worker ends with the separator; and for a one-byte separator `c` and a writer output `p`
    that does not contain `c` (the JSON writer escapes control characters), with or without a trailing `c` of its
    own, the buffer is `p ++ [c]` — an event in the sense of `WfEvents`. -/
theorem emit_appends_separator (sep buf : List Nat) :
    sep <:+ finishEvent sep buf ∧
      ∀ c p, sep = [c] → c ∉ p → (buf = p ∨ buf = p ++ [c]) → finishEvent sep buf = p ++ [c] := by
  constructor
  · unfold finishEvent
    split
    · rename_i h; exact List.isSuffixOf_iff_suffix.mp h
    · exact List.suffix_append _ _
  · rintro c p rfl hc (rfl | rfl)
    · unfold finishEvent
      have : ([c].isSuffixOf buf) = false := by
        cases h : [c].isSuffixOf buf with
        | false => rfl
        | true =>
          have := List.isSuffixOf_iff_suffix.mp h
          exact absurd (this.subset (by simp)) hc
      simp [this]
    · unfold finishEvent
      have : ([c].isSuffixOf (p ++ [c])) = true := List.isSuffixOf_iff_suffix.mpr (List.suffix_append _ _)
      simp [this]

/-- **A failed format contributes nothing** (`FileSetInner::emit`, error arm): the buffers handed to the worker for a
    sequence of events are exactly the finished buffers of the events whose writer returned Ok, in order — an event
    whose writer failed is dropped whole (counted in `event_format_failed`), whatever partial bytes it had written,
    and the events after it are unaffected; every buffer sent ends with the separator. -/
theorem failed_format_contributes_nothing (sep : List Nat) (ws : List Formatted) :
    (emitAll sep ws).1 =
        (ws.filterMap fun w => match w with | .ok p => some p | .fail _ => none).map (finishEvent sep) ∧
      (∀ b ∈ (emitAll sep ws).1, sep <:+ b) ∧
      (emitAll sep ws).2 + (emitAll sep ws).1.length = ws.length := by
  refine ⟨?_, ?_, ?_⟩
  · rw [List.map_filterMap]
    exact congrArg (List.filterMap · ws) (funext fun w => by cases w <;> rfl)
  · intro b hb
    simp only [emitAll, List.mem_filterMap] at hb
    obtain ⟨w, _, hw⟩ := hb
    cases w with
    | ok p => simp only [emitBuf, Option.some.injEq] at hw; rw [← hw]; exact (emit_appends_separator sep p).1
    | fail q => simp [emitBuf] at hw
  · induction ws with
    | nil => rfl
    | cons w ws ih =>
      simp only [emitAll] at ih ⊢
      cases w with
      | ok _ | fail _ => simp only [List.filterMap_cons, emitBuf, List.filter_cons, List.length_cons]; simp; omega

/-- The default separator, and the events `a\n`, `bc\n`. -/
example : WfEvents (fun e => e = [97, 10] ∨ e = [98, 99, 10]) 10 := by
  intro e he
  rcases he with rfl | rfl
  · exact ⟨[97], rfl, by decide⟩
  · exact ⟨[98, 99], rfl, by decide⟩

example (cfg : Config) : Inv cfg (fun e => e = [97, 10]) 10 emptyState := inv_emptyState _ _ _

/-- A concrete acknowledged batch: minute rolling, no faults, one event `a\n` into the empty directory. -/
example :
    let cfg : Config := { pfx := [97], ext := [108], rollBy := .minute, reuse := false, maxFiles := 2, maxSize := 100,
                          sep := [10] }
    let now : Parts := { years := 2024, months := 1, days := 1, hours := 0, minutes := 0, seconds := 0, nanos := 0 }
    (onBatch cfg (fun _ => .ok) now 7 (Batch.ofEvents [[97, 10]]) emptyState).1 = .ok := by
  decide +kernel

/-! ### Defect D19 and its repair, on one concrete history

Two events `a\n`, `b\n` in one batch, files not reused, the write of the second event fails once (operation 5);
the retry goes to a new file and succeeds. -/

private def cfgD19 : Config :=
  { pfx := [97], ext := [108], rollBy := .minute, reuse := false, maxFiles := 3, maxSize := 100, sep := [10] }
private def nowD19 : Parts :=
  { years := 2024, months := 1, days := 1, hours := 0, minutes := 0, seconds := 0, nanos := 0 }
private def planD19 : Nat → Fault := fun i => if i = 5 then .err else .ok
private def batchD19 : Batch := Batch.ofEvents [[97, 10], [98, 10]]

/-- **Defect D19 (before the fix).** The batch ends Ok after one retry, yet the first event sits in a file whose
    synced content is empty: it was written by the failed attempt, was not part of the retry and was never synced. -/
theorem legacy_retry_leaves_prefix_unsynced :
    (processBatchLegacy cfgD19 planD19 [(nowD19, 7), (nowD19, 8)] batchD19 emptyState).1 = .ok ∧
    (processBatchLegacy cfgD19 planD19 [(nowD19, 7), (nowD19, 8)] batchD19 emptyState).2.fs.any
      (fun nf => nf.2.synced == [] && nf.2.unsynced == [97, 10]) = true := by
  decide +kernel

-- the hypotheses of `retried_prefix_durable` / `batch_done_all_durable` are met by that history on the fixed model:
-- the first attempt hands back a proper remainder, the loop ends Ok, and both events are in synced content
example : (batchD19.rest.map List.length).sum ≤ batchD19.remaining := by decide +kernel
example : ∃ b' s', onBatch cfgD19 planD19 nowD19 7 batchD19 emptyState = (.retry b', s') ∧ b' ≠ batchD19 ∧
    b'.rest = [[98, 10]] := ⟨_, _, rfl, by decide, by decide⟩
example : (processBatch cfgD19 planD19 [(nowD19, 7), (nowD19, 8)] batchD19 emptyState).1 = .ok ∧
    (processBatch cfgD19 planD19 [(nowD19, 7), (nowD19, 8)] batchD19 emptyState).2.fs.all
      (fun nf => nf.2.unsynced == [] && (nf.2.synced == [97, 10] || nf.2.synced == [98, 10])) = true := by
  decide +kernel

end EmitModel.C10
