/-
  Thm/C16.lean — property C16: templates render and compare by meaning, for any text.
  The property theorems; what they rest on is in Lemmas/Template.lean (runtime half) and Lemmas/TemplateMacro.lean
  (macro half).

  OBLIGATIONS (audited by `check` with `#print axioms`):
    eq_total, eq_iff_norm, eq_iff_atoms, eq_refl, eq_symm, eq_trans, eq_split_insensitive,
    eq_empty_fragment_insensitive, eq_ignores_formatter, norm_normal,
    render_spec, render_any_writer, render_recorded, lookup_first_wins, lookup_absent_iff,
    render_owned_borrowed_same, render_same_of_eq,
    macro_parts_norm, macro_eq_meaning, macro_render_same, macro_plain_literal_same
-/
import EmitModel.Lemmas.Template
import EmitModel.Lemmas.TemplateMacro
import EmitModel.Base.Assoc

namespace EmitModel.C16
open EmitModel.Template

/-! ## Equality (`PartialEq for Template`, core/src/template.rs:180-273)

`eq` is the model of the code as it is after
`fix: compare template text fragments as bytes and skip empty fragments in Template equality` (defect D12: before it,
`[text "aé", hole x] == [text "ab", hole x]` panicked and `[text "", hole x] != [hole x]`; both cases are in
harness/corpus/c16_eq.txt). Holes are compared by label only — the code ignores the formatter. -/

/-- Equality is equality of the flattened streams of bytes and holes. -/
theorem eq_iff_atoms (a b : List Part) : eq a b = .ok (decide (atoms a = atoms b)) := by
  unfold eq
  split
  · rename_i x y hx hy
    have ea : a = [.text x] := by
      unfold asLiteral at hx; split at hx <;> simp_all
    have eb : b = [.text y] := by
      unfold asLiteral at hy; split at hy <;> simp_all
    subst ea eb
    congr 1
    rw [Bool.eq_iff_iff]
    simp only [beq_iff_eq, atoms, List.append_nil, decide_eq_true_eq]
    exact ⟨fun h => by rw [h], map_byte_inj⟩
  · simpa using eqLoop_spec a 0 b 0 (Inv.zero _) (Inv.zero _)

/-- Equality never panics, for any two part sequences (any bytes, in particular any UTF-8 text cut anywhere). -/
theorem eq_total (a b : List Part) : eq a b ≠ .panic := by
  rw [eq_iff_atoms]; simp

/-- Equality is exactly equality of normal forms (`norm` drops empty text parts, merges adjacent text parts and
    forgets formatters): same holes (by label) in the same positions, same text between them, however split. -/
theorem eq_iff_norm (a b : List Part) : eq a b = .ok (decide (norm a = norm b)) := by
  rw [eq_iff_atoms]
  congr 1
  rw [Bool.eq_iff_iff]
  simp [norm_eq_iff_atoms_eq]

/-- A normal form: no empty text run, no two adjacent text runs. -/
def Normal : List Seg → Prop
  | [] => True
  | .text t :: r => t ≠ [] ∧ (match r with | .text _ :: _ => False | _ => True) ∧ Normal r
  | .hole _ :: r => Normal r

theorem norm_normal (ps : List Part) : Normal (norm ps) := by
  have key : ∀ (t : List UInt8) (r : List Seg), Normal r → Normal (consText t r) := by
    intro t r hr
    cases r with
    | nil => by_cases h : t = [] <;> simp [consText, h, Normal]
    | cons s r =>
      cases s with
      | text u =>
        simp only [Normal] at hr
        simp only [consText, Normal]
        exact ⟨by simp [hr.1], hr.2.1, hr.2.2⟩
      | hole l =>
        by_cases h : t = []
        · simpa [consText, h] using hr
        · simp only [consText, h, if_false, Normal]
          exact ⟨h, trivial, hr⟩
  fun_induction norm ps with
  | case1 => trivial
  | case2 t ps ih => exact key t _ ih
  | case3 l f ps ih => simpa [Normal] using ih

theorem eq_refl (a : List Part) : eq a a = .ok true := by
  rw [eq_iff_norm]; simp

theorem eq_symm (a b : List Part) : eq a b = eq b a := by
  rw [eq_iff_norm, eq_iff_norm]
  congr 1
  rw [Bool.eq_iff_iff]
  simp [eq_comm]

theorem eq_trans (a b c : List Part) (hab : eq a b = .ok true) (hbc : eq b c = .ok true) : eq a c = .ok true := by
  rw [eq_iff_norm] at *
  simp only [Res.ok.injEq, decide_eq_true_eq] at *
  rw [hab, hbc]

/-- Splitting a text fragment anywhere (at any byte, so in particular at any character boundary) does not change
    the template. -/
theorem eq_split_insensitive (pre post : List Part) (s t : List UInt8) :
    eq (pre ++ .text (s ++ t) :: post) (pre ++ .text s :: .text t :: post) = .ok true := by
  simp [eq_iff_atoms, atoms_append, atoms]

/-- Inserting an empty text fragment anywhere (also next to a hole, at the start or at the end) does not change the
    template. -/
theorem eq_empty_fragment_insensitive (pre post : List Part) :
    eq (pre ++ post) (pre ++ .text [] :: post) = .ok true := by
  simp [eq_iff_atoms, atoms_append, atoms]

/-- What the code really does with formatters: nothing — two holes with the same label are the same hole. -/
theorem eq_ignores_formatter (pre post : List Part) (l : List UInt8) (f g : Option Nat) :
    eq (pre ++ .hole l f :: post) (pre ++ .hole l g :: post) = .ok true := by
  simp [eq_iff_atoms, atoms_append, atoms]

/-! Non-vacuity / sanity: the D12 reproducers compare as the property demands, and unequal things stay unequal. -/
example : eq [.text [0x61, 0xc3, 0xa9], .hole [0x78] none] [.text [0x61, 0x62], .hole [0x78] none] = .ok false := by
  rw [eq_iff_norm]; decide
example : eq [.text [], .hole [0x78] none] [.hole [0x78] none] = .ok true := by
  rw [eq_iff_norm]; decide
example : eq [.text [0xc3], .text [0xa9]] [.text [0xc3, 0xa9]] = .ok true := by
  rw [eq_iff_norm]; decide
example : eq [.hole [0x78] none] [.text [0x7b, 0x78, 0x7d]] = .ok false := by
  rw [eq_iff_norm]; decide
example : eq [.text [0x61], .hole [0x78] none] [.text [0x61], .hole [0x78] none, .hole [0x78] none] = .ok false := by
  rw [eq_iff_norm]; decide

/-! ## Rendering (`Render::write`, `Part::write`, `Write` defaults; core/src/template.rs:306-319, 334-403, 570-591) -/

/-- The default rendering (the `String` writer, `Display`/`to_string()`): the concatenation over the parts of
    text verbatim | the first-wins property value, through the hole's formatter if it has one | `{label}` when the
    property is absent — for any parts (empty, repeated, any bytes), any properties, any formatter table, appended
    to whatever the writer already holds. (`partBytes` is this three-way case distinction, Lemmas/Template.lean.) -/
theorem render_spec (tbl : Nat → Val → List UInt8) (props : List (List UInt8 × Val)) (parts : List Part)
    (s : List UInt8) :
    render (stringWriter tbl) props parts s = (s ++ (parts.map (partBytes tbl props)).flatten, true) :=
  Template.render_spec tbl props parts s

/-- To any writer: all `Render::write` does to a `template::Write` implementation, whatever its callbacks do, is to
    feed it the callbacks of the parts (`partEv`: `write_text` | `write_hole_value` | `write_hole_fmt` |
    `write_hole_label`, determined by part and properties alone) in order, stopping at the first `Err`. -/
theorem render_any_writer {σ : Type} (w : Writer σ) (props : List (List UInt8 × Val)) (parts : List Part) (s : σ) :
    render w props parts s = feed w (parts.map (partEv props)) s := by
  induction parts generalizing s with
  | nil => rfl
  | cons p ps ih =>
    have h : p.write w props s = w.handle s (partEv props p) := by
      cases p with
      | text t => rfl
      | hole l f =>
        simp only [Part.write, partEv]
        cases lookupFirst l props with
        | none => rfl
        | some v => cases f <;> rfl
    simp only [render, List.map_cons, feed, h]
    split <;> simp_all

/-- The harness's recording writer sees exactly those callbacks; failing on callback `k` it has seen the first `k`
    and the error is propagated iff callback `k` exists. -/
theorem render_recorded (props : List (List UInt8 × Val)) (parts : List Part) (failAt : Option Nat) :
    render (recWriter failAt) props parts [] =
      match failAt with
      | none => (parts.map (partEv props), true)
      | some k => ((parts.map (partEv props)).take k, decide (parts.length ≤ k)) := by
  rw [render_any_writer]
  cases failAt with
  | none => simp [feed_rec_none]
  | some k => simp [feed_rec_some]

theorem lookupFirst_eq_assoc (l : List UInt8) (ps : List (List UInt8 × Val)) :
    lookupFirst l ps = Assoc.lookupFirst l ps := by
  induction ps with
  | nil => rfl
  | cons kv ps ih => rw [lookupFirst, Assoc.lookupFirst, ih]

/-- A hole renders as `{label}` exactly when no pair has its label. -/
theorem lookup_absent_iff (l : List UInt8) (props : List (List UInt8 × Val)) :
    lookupFirst l props = none ↔ ∀ kv ∈ props, kv.1 ≠ l := by
  rw [lookupFirst_eq_assoc, Assoc.lookupFirst_eq_none_iff, Assoc.keys, List.mem_map]
  exact ⟨fun h kv hkv e => h ⟨kv, hkv, e⟩, fun h ⟨kv, hkv, e⟩ => h kv hkv e⟩

/-- First value wins: pairs after the first one with the hole's label are never looked at. -/
theorem lookup_first_wins (l : List UInt8) (pre post : List (List UInt8 × Val)) (v : Val)
    (h : ∀ kv ∈ pre, kv.1 ≠ l) : lookupFirst l (pre ++ (l, v) :: post) = some v := by
  rw [lookupFirst_eq_assoc, Assoc.lookupFirst_append, ← lookupFirst_eq_assoc, (lookup_absent_iff l pre).2 h,
    Option.none_or, Assoc.lookupFirst_cons, if_pos rfl]

/-- `to_owned`, `by_ref` and the literal constructors are identities on the parts, hence on rendering (to any writer)
    and on equality. -/
theorem render_owned_borrowed_same (ps : List Part) :
    toOwned ps = ps ∧ byRef ps = ps ∧
    (∀ {σ : Type} (w : Writer σ) props s, render w props (toOwned ps) s = render w props ps s ∧
        render w props (byRef ps) s = render w props ps s) ∧
    (∀ t, literal t = [.text t]) ∧
    (∀ b, eq (toOwned ps) b = eq ps b ∧ eq (byRef ps) b = eq ps b) := by
  refine ⟨toOwned_id ps, byRef_id ps, ?_, fun _ => rfl, ?_⟩
  · intro σ w props s; rw [toOwned_id, byRef_id]; exact ⟨rfl, rfl⟩
  · intro b; rw [toOwned_id, byRef_id]; exact ⟨rfl, rfl⟩

/-- The two halves fit: templates that compare equal and carry no formatters render identically, for every property
    set, to the default `String` writer (one that sees the fragments apart can tell them). (With formatters they need not — see `eq_ignores_formatter` and the example below.) -/
theorem render_same_of_eq (tbl : Nat → Val → List UInt8) (a b : List Part) (h : eq a b = .ok true)
    (ha : NoFmt a) (hb : NoFmt b) (props : List (List UInt8 × Val)) (s : List UInt8) :
    render (stringWriter tbl) props a s = render (stringWriter tbl) props b s := by
  rw [eq_iff_atoms] at h
  simp only [Res.ok.injEq, decide_eq_true_eq] at h
  rw [render_spec, render_spec, flatten_partBytes_of_noFmt tbl props a ha, flatten_partBytes_of_noFmt tbl props b hb, h]

-- the first value wins, the formatter is applied, an absent label renders as `{y}`
example : render (stringWriter fun _ v => [0x5b] ++ v.display ++ [0x5d])
    [([0x78], .str [0x37]), ([0x78], .str [0x38])] [.text [0x61], .hole [0x78] none, .hole [0x78] (some 0), .hole [0x79] none] [] =
    ([0x61, 0x37, 0x5b, 0x37, 0x5d, 0x7b, 0x79, 0x7d], true) := by decide +kernel
/-- equal (label-wise) templates with different formatters render differently -/
example : eq [.hole [0x78] none] [.hole [0x78] (some 0)] = .ok true ∧
    render (stringWriter fun _ _ => [0x23]) [([0x78], .str [0x37])] [.hole [0x78] none] [] ≠
    render (stringWriter fun _ _ => [0x23]) [([0x78], .str [0x37])] [.hole [0x78] (some 0)] [] := by
  constructor
  · rw [eq_iff_norm]; decide
  · decide
example : NoFmt [.text [0x61], .hole [0x78] none] := by
  intro l f h; simp at h; exact h.2

/-! ## Macro-built templates (fv_template scanner + macros/src/template.rs:88-199 visitor)

`macroParts ext src` is the parts array the macros generate for the template literal whose SOURCE text (between the
quotes) is `src` — after `fix: evaluate escape sequences in the text of macro template literals` (before it the text
kept backslash escapes verbatim: `emit::tpl!("tab\there")` rendered a backslash and a `t`).
`literalMeaning src` reads the literal unit by unit (`specText`: a backslash escape is the character it denotes,
`{{` is `{`, `}}` is `}`; `{ … }` is a hole named by the key identifier of its field-value). -/
section Macro
open EmitModel.TemplateMacro

/-- The parts generated for a literal normalise to the literal's meaning — for every literal the scanner and the
    visitor accept, any `#[emit::fmt]` flags. (`literalMeaning` reads the model's own segmentation and hole parser: the
    claim's content is the text between the holes.) -/
theorem macro_parts_norm (ext : List (List Char × List Char)) (src : List Char) (parts : List MPart)
    (h : macroParts ext src = some parts) : literalMeaning src = some (norm (toParts parts)) := by
  unfold macroParts at h
  unfold literalMeaning
  split at h
  · simp at h
  · rename_i segs hsegs
    rw [hsegs]
    simp only [toParts, visitAll_spec ext segs parts (segments_ok hsegs) h, Option.map_some, norm_plain _ 0]

/-- Hence a macro-built template `==` (real `PartialEq`) any hand-built template with that meaning. -/
theorem macro_eq_meaning (ext : List (List Char × List Char)) (src : List Char) (parts : List MPart)
    (h : macroParts ext src = some parts) (other : List Part) (ho : literalMeaning src = some (norm other)) :
    eq (toParts parts) other = .ok true := by
  rw [macro_parts_norm ext src parts h] at ho
  rw [eq_iff_norm]
  simp only [Option.some.injEq] at ho
  simp [ho]

/-- A macro-built template without format flags renders, for every property set, exactly like any formatter-free
    hand-built (borrowed or owned) template with the literal's meaning. -/
theorem macro_render_same (tbl : Nat → Val → List UInt8) (ext : List (List Char × List Char)) (src : List Char)
    (parts : List MPart) (h : macroParts ext src = some parts) (hf : NoFlags parts)
    (other : List Part) (ho : literalMeaning src = some (norm other)) (hof : NoFmt other)
    (props : List (List UInt8 × Val)) (s : List UInt8) :
    render (stringWriter tbl) props (toParts parts) s = render (stringWriter tbl) props other s :=
  render_same_of_eq tbl _ _ (macro_eq_meaning ext src parts h other ho) (noFmt_toParts parts hf) hof props s

/-- A literal without braces and backslashes is one text part holding the literal itself: the macro-built template
    is the `Template::literal` of the same text. -/
theorem macro_plain_literal_same (ext : List (List Char × List Char)) (src : List Char) (h : NoBrace src)
    (hb : src.contains '\\' = false) : macroParts ext src = some [.text src] ∧ toParts [.text src] = literal (utf8 src) := by
  refine ⟨?_, rfl⟩
  unfold macroParts segments
  by_cases he : src = []
  · subst he
    simp [visitAll, visitSeg, finishText, unescapeText]
  · have : src.isEmpty = false := by cases src <;> simp_all
    simp only [this, Bool.false_eq_true, if_false, textMode_plain src [] false h, List.nil_append]
    have hb' : '\\' ∉ src := by simpa using hb
    simp [flushText, this, visitAll, visitSeg, finishText, unescapeText, hb']

open EmitModel.TemplateMacro in
/-- the hypothesis of `macro_parts_norm` is met by real literals: `"{{{x}\n"` (source text) -/
example : macroParts [] ['{', '{', '{', 'x', '}', '\\', 'n'] = some [.text ['{'], .hole ['x'] none, .text ['\n']] := by
  simp [macroParts, segments, textMode, holeMode, flushText, visitAll, visitSeg, finishText, finishHole, replaceDouble,
    unescapeText, unescape, unescapeSt, escChar, parseHole, isWs, isIdentChar]
open EmitModel.TemplateMacro in
/-- and literals the macros reject have no parts: `"a}"`, `"{"` -/
example : macroParts [] ['a', '}'] = none ∧ macroParts [] ['{'] = none := by
  simp [macroParts, segments, textMode]
open EmitModel.TemplateMacro in
example : NoFlags [.text ['{'], .hole ['x'] none, .text ['\n']] := by
  intro l f h; simp at h; exact h.2
open EmitModel.TemplateMacro in
example : NoBrace ['h', 'i'] ∧ ['h', 'i'].contains '\\' = false := by
  refine ⟨?_, by decide⟩
  intro c hc
  simp only [List.mem_cons, List.not_mem_nil, or_false] at hc
  rcases hc with rfl | rfl <;> decide

end Macro

end EmitModel.C16
