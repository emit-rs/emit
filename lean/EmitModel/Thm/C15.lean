/-
  Thm/C15.lean — property theorems for C15 "text forms round-trip and every parser is total".
  The property theorems and their `example`s; the vocabulary of the statements and the helper lemmas live in
  Lemmas/{HexId, TraceparentText, Calendar, TimestampDigits, TimestampText, TimestampOrder, PathValid, KindText,
  Text}.lean (`joinSegs` is PathValid's, every segment prefixed with `::`, not `Level.joinSegs`). The two level
  theorems restate Thm/C17.lean.

  OBLIGATIONS (audited by `check` with `#print axioms`, listed in props/C15.json):
    hex_roundtrip, trace_id_roundtrip, span_id_roundtrip, hex_strict, hex_value, hex_entry_points_agree,
    flags_roundtrip, flags_strict, traceparent_roundtrip, traceparent_strict,
    calendar_roundtrip, ts_roundtrip, ts_roundtrip_exact, ts_parse_total, ts_strict, ts_accepts_calendar_valid,
    fmt_order, fmt_order_full, path_spec, is_child_of_spec, kind_roundtrip, kind_strict,
    level_roundtrip, level_lenient_spec

  Totality: every model parser is a total Lean function into `Option`/`Outcome`; wherever the Rust code can panic
  the model returns `Outcome.panic` explicitly, and the theorems below that state `= .ok _` / `≠ .panic` are the
  "never panics" clauses. The correspondence streams compare `ok(v) | err | panic` with the real code.
-/
import EmitModel.Model.Text
import EmitModel.Lemmas.HexId
import EmitModel.Lemmas.TraceparentText
import EmitModel.Lemmas.TimestampText
import EmitModel.Lemmas.TimestampOrder
import EmitModel.Lemmas.PathValid
import EmitModel.Lemmas.KindText
import EmitModel.Thm.C17

namespace EmitModel.C15
open EmitModel.Text

/-- ASCII text as bytes (for the `example`s; kernel-reducible, unlike `String.toUTF8`). -/
def ascii (s : String) : List UInt8 := s.toList.map fun c => UInt8.ofNat c.toNat

/-! ## Hex ids: `TraceId` (n = 16 bytes, 32 chars) and `SpanId` (n = 8 bytes, 16 chars) -/
section HexIds
open EmitModel.HexId

/-- Formatting then parsing returns the id, for every non-zero id of `n` bytes; the text has exactly `2n`
    lower-case hex digits. -/
theorem hex_roundtrip (n v : Nat) (h0 : v ≠ 0) (hlt : v < 256 ^ n) :
    fromStr n (toHex n v) = some v ∧ (toHex n v).length = 2 * n ∧
    ∀ c ∈ toHex n v, isHexDigit c = true ∧ asciiLower c = c :=
  ⟨tryFromHexSlice_toHex n v h0 hlt, toHex_length n v, encodeBytes_shape _⟩

theorem trace_id_roundtrip (v : Nat) (h0 : v ≠ 0) (hlt : v < 2 ^ 128) : fromStr 16 (toHex 16 v) = some v :=
  (hex_roundtrip 16 v h0 (by simpa using hlt)).1

theorem span_id_roundtrip (v : Nat) (h0 : v ≠ 0) (hlt : v < 2 ^ 64) : fromStr 8 (toHex 8 v) = some v :=
  (hex_roundtrip 8 v h0 (by simpa using hlt)).1

/-- Strictness: a text is accepted iff it is exactly `2n` characters of `[0-9a-fA-F]` (either case) that are not
    all `'0'`. Any other text — wrong length, any other byte, multi-byte characters — is an error. -/
theorem hex_strict (n : Nat) (bs : List UInt8) :
    (fromStr n bs).isSome = true ↔
      bs.length = 2 * n ∧ (∀ b ∈ bs, isHexDigit b = true) ∧ ¬ (∀ b ∈ bs, b = 48) := by
  unfold fromStr
  constructor
  · intro h
    obtain ⟨v, hv⟩ := Option.isSome_iff_exists.1 h
    have ⟨l, d, e, nz⟩ := (tryFromHexSlice_eq_some n bs v).1 hv
    refine ⟨l, d, ?_⟩
    intro hall
    exact nz (e ▸ (hexValue_zero bs d).2 hall)
  · rintro ⟨l, d, nz⟩
    have : tryFromHexSlice n bs = some (hexValue bs) :=
      (tryFromHexSlice_eq_some n bs _).2 ⟨l, d, rfl, fun hz => nz ((hexValue_zero bs d).1 hz)⟩
    simp [this]

/-- What an accepted text means: its numeric value, which is a legal id and re-formats to the lower-cased text
    (so parsing is injective up to letter case). -/
theorem hex_value (n : Nat) (bs : List UInt8) (v : Nat) (h : fromStr n bs = some v) :
    v = hexValue bs ∧ v ≠ 0 ∧ v < 256 ^ n ∧ toHex n v = bs.map asciiLower := by
  obtain ⟨hb, dst, hd, hv, nz⟩ := (tryFromHexSlice_iff_decodePairs n bs v).1 h
  have ⟨l, _, val, enc⟩ := decodePairs_some bs dst hd
  have hl : dst.length = n := by omega
  refine ⟨hv.symm.trans (val 0), nz, ?_, ?_⟩
  · rw [← hv, ← hl]; exact fromBeBytes_lt dst
  · rw [toHex, ← hv, toBeBytes_fromBeBytes n dst hl, enc]

/-- All entry points agree: `try_from_hex` (through the fixed-size buffer) and casting a text value are the
    `FromStr` parser; a typed value casts to itself. -/
theorem hex_entry_points_agree (n : Nat) (s : List UInt8) :
    tryFromHex n s = fromStr n s ∧ IdVal.cast n (.text s) = fromStr n s ∧
    ∀ v, IdVal.cast n (.typed v) = some v :=
  ⟨tryFromHex_eq n s, tryFromHex_eq n s, fun _ => rfl⟩

example : fromStr 8 (ascii "00f067aa0ba902b7") = some 0x00f067aa0ba902b7 := by decide +kernel
example : fromStr 8 (ascii "00F067AA0BA902B7") = some 0x00f067aa0ba902b7 := by decide +kernel
example : fromStr 8 (ascii "0000000000000000") = none := by decide +kernel
example : fromStr 8 (ascii "00f067aa0ba902b") = none := by decide +kernel
example : fromStr 8 (ascii "00f067aa0ba902bg") = none := by decide +kernel

end HexIds

/-! ## The `traceparent` header: flags and the 55-byte frame -/
section TraceparentHeader
open EmitModel.HexId EmitModel.TraceparentText

/-- All 256 flag bytes round-trip. -/
theorem flags_roundtrip (f : UInt8) : flagsParse (flagsToHex f) = some f := by
  have h := byte_roundtrip f
  simp [flagsParse, flagsToHex, h.1, h.2]

/-- Flags are accepted iff they are exactly two hex digits. -/
theorem flags_strict (bs : List UInt8) :
    (flagsParse bs).isSome = true ↔ bs.length = 2 ∧ ∀ b ∈ bs, isHexDigit b = true := by
  unfold flagsParse
  split
  · rename_i a b
    simp only [pair_sentinel]
    cases ha : isHexDigit a <;> cases hb : isHexDigit b <;> simp [ha, hb]
  · rename_i hne
    constructor
    · intro h; cases h
    · rintro ⟨hl, _⟩
      match bs, hl with
      | [a, b], _ => exact absurd rfl (hne a b)

/-- Ids carried by a `Traceparent` are `None` or legal (non-zero, in range) — guaranteed by the Rust types. -/
def TraceparentWF (tp : Traceparent) : Prop :=
  (∀ t, tp.traceId = some t → t ≠ 0 ∧ t < 2 ^ 128) ∧ (∀ s, tp.spanId = some s → s ≠ 0 ∧ s < 2 ^ 64)

/-- Formatting then parsing returns the header, for every combination of present/absent ids and all flags;
    the text is 55 bytes. -/
theorem traceparent_roundtrip (tp : Traceparent) (h : TraceparentWF tp) :
    parseTraceparent (fmtTraceparent tp) = some tp ∧ (fmtTraceparent tp).length = 55 := by
  have ht := idOf_idText 16 tp.traceId fun t e => by simpa using h.1 t e
  have hs := idOf_idText 8 tp.spanId fun s e => by simpa using h.2 s e
  have hl := sub_frame _ _ (flagsToHex tp.flags) (idText_length 16 tp.traceId) (idText_length 8 tp.spanId) rfl
  rw [fmtTraceparent_eq, parse_frame _ _ _ (idText_length 16 _) (idText_length 8 _) rfl, ht, hs, flags_roundtrip]
  exact ⟨rfl, hl.1⟩

/-- Strictness: a header is accepted iff it is `00-` T `-` S `-` F with T, S, F of 32, 16 and 2 hex digits
    (55 bytes in all). Wrong length, wrong or missing separator, another version, a non-hex character anywhere
    (including multi-byte characters) are errors. All-zero T / S mean "absent". -/
theorem traceparent_strict (bs : List UInt8) :
    (parseTraceparent bs).isSome = true ↔
      ∃ t s f, bs = [48, 48, 45] ++ t ++ [45] ++ s ++ [45] ++ f ∧
        t.length = 32 ∧ s.length = 16 ∧ f.length = 2 ∧
        (∀ b ∈ t, isHexDigit b = true) ∧ (∀ b ∈ s, isHexDigit b = true) ∧ (∀ b ∈ f, isHexDigit b = true) := by
  constructor
  · intro h
    obtain ⟨tp, htp⟩ := Option.isSome_iff_exists.1 h
    obtain ⟨t, s, f, rfl, lt, ls, lf⟩ := parse_some_shape bs tp htp
    obtain ⟨h1, h2, h3⟩ := (parse_frame_isSome t s f lt ls lf).1 h
    exact ⟨t, s, f, rfl, lt, ls, lf, (idOf_isSome 16 t lt).1 h1, (idOf_isSome 8 s ls).1 h2,
      ((flags_strict f).1 h3).2⟩
  · rintro ⟨t, s, f, rfl, lt, ls, lf, dt, ds, df⟩
    exact (parse_frame_isSome t s f lt ls lf).2
      ⟨(idOf_isSome 16 t lt).2 dt, (idOf_isSome 8 s ls).2 ds, (flags_strict f).2 ⟨lf, df⟩⟩

example : (parseTraceparent (ascii "00-4bf92f3577b34da6a3ce929d0e0e4736-00f067aa0ba902b7-01")).isSome = true := by
  decide +kernel
example : parseTraceparent (ascii "00-00000000000000000000000000000000-00f067aa0ba902b7-01")
    = some ⟨none, some 0x00f067aa0ba902b7, 1⟩ := by decide +kernel
example : parseTraceparent (ascii "01-4bf92f3577b34da6a3ce929d0e0e4736-00f067aa0ba902b7-01") = none := by
  decide +kernel
example : TraceparentWF ⟨some 5, none, 255⟩ := by
  constructor <;> intro x h <;> simp at h <;> subst h <;> decide

end TraceparentHeader

/-! ## Timestamps: calendar conversion, RFC 3339 formatter and (post-D10-fix) strict parser -/
section Timestamps
open EmitModel.Timestamp

/-- Calendar parts convert both ways for every instant from 1970-01-01T00:00:00Z to
    9999-12-31T23:59:59.999999999Z (`t` in nanoseconds): `to_parts` does not panic (its month loop stays inside the
    table), lands in range (month 1–12, day 1–31, hour ≤ 23, minute/second ≤ 59, year 1970–9999) and `from_parts`
    returns exactly the instant. -/
theorem calendar_roundtrip (t : Nat) (ht : t ≤ MAX_NS) :
    ∃ p, toPartsO t = .ok p ∧ toParts t = p ∧ InRange p ∧ fromParts p = .ok (some t) := by
  obtain ⟨p, h1, h2, hn, h4⟩ := toParts_fromParts t ht
  refine ⟨p, h1, toParts_eq t p h1, h2, ?_⟩
  have := h4 (t % NANOS) (Nat.mod_lt _ (by decide))
  rw [Nat.div_add_mod', ← hn] at this
  exact this

/-- Formatting then parsing returns the instant truncated to the `k` printed sub-second digits, for every
    instant in range and every precision `k ∈ 0..9` (`{:.k}`); the formatter does not panic. -/
theorem ts_roundtrip (t k : Nat) (ht : t ≤ MAX_NS) (hk : k ≤ 9) :
    fmtRfc3339O (some k) t = .ok (fmtRfc3339 (some k) t) ∧
    parseRfc3339 (fmtRfc3339 (some k) t) = .ok (t - t % 10 ^ (9 - k)) := by
  obtain ⟨p, hp, hr, hnanos, hfp⟩ := toParts_fromParts t ht
  obtain ⟨e1, e2⟩ := trunc_facts t k hk
  refine ⟨by simp [fmtRfc3339O, fmtRfc3339, hp, toParts_eq t p hp, Outcome.map, Outcome.bind], ?_⟩
  have hm : ¬ (p.months = 0 ∨ p.days = 0) := by have := hr.mo.1; have := hr.d.1; omega
  rw [fmtRfc3339, toParts_eq t p hp, parse_fmtParts p hr k hk, hnanos, ← e2]
  simp only [finish, hm, ↓reduceIte, hfp _ (Nat.mod_lt _ (by decide))]
  rw [← e1, Nat.div_add_mod']

/-- In particular the default `Display` (no precision = 9 digits) and any precision ≥ 9 round-trip exactly, and so
    does every precision at which the instant is representable. -/
theorem ts_roundtrip_exact (t : Nat) (ht : t ≤ MAX_NS) :
    parseRfc3339 (fmtRfc3339 none t) = .ok t ∧
    (∀ k, 9 ≤ k → parseRfc3339 (fmtRfc3339 (some k) t) = .ok t) ∧
    (∀ k, k ≤ 9 → t % 10 ^ (9 - k) = 0 → parseRfc3339 (fmtRfc3339 (some k) t) = .ok t) := by
  have h9 := (ts_roundtrip t 9 ht (Nat.le_refl 9)).2
  simp only [Nat.sub_self, Nat.pow_zero, Nat.mod_one, Nat.sub_zero] at h9
  refine ⟨?_, ?_, ?_⟩
  · rw [fmtRfc3339_none, h9]
  · intro k hk
    have : fmtRfc3339 (some k) t = fmtRfc3339 (some 9) t := by
      rw [fmtRfc3339, fmtRfc3339, fmtParts_eq_text, fmtParts_eq_text, Nat.min_eq_left hk, Nat.min_self]
    rw [this, h9]
  · intro k hk hz
    have := (ts_roundtrip t k ht hk).2
    rwa [hz, Nat.sub_zero] at this

/-- The parser is total: it never panics, on any byte string whatsoever (any length, multi-byte characters,
    signs, separators) — and neither does the `Display`-buffering entry point, which is the same function. -/
theorem ts_parse_total (s : List UInt8) :
    parseRfc3339 s ≠ .panic ∧ parseDisplay s = parseRfc3339 s := by
  constructor
  · unfold parseRfc3339 parseFields
    repeat' split
    all_goals first | exact finish_ne_panic _ _ _ _ _ _ _ | nofun
  · unfold parseDisplay buffer30
    by_cases h : s.length ≤ 30
    · simp [h]
    · have : s.length > 30 := by omega
      simp [h, parseRfc3339, this]

/-- Strictness, as an exact characterisation of the accepted language: a text parses to `t` iff it is
    `YYYY-MM-DDThh:mm:ss[.F]Z` — four/two-digit zero-padded decimal fields, the separators `-`, `-`, `T`, `:`, `:`,
    an optional `.` followed by 1–9 digits `F`, the zone `Z` — with month and day at least 1, and `from_parts` of
    the seven numbers is `t` (fields beyond their calendar range are whatever `from_parts` makes of them; the
    result must lie in 1970..=9999). Every other text — wrong length, wrong or missing separator or zone, a sign, a
    non-digit or multi-byte character where a digit belongs, an empty fraction — is an error. -/
theorem ts_strict (s : List UInt8) (t : Nat) :
    parseRfc3339 s = .ok t ↔
      ∃ Y Mo D H Mi S F, Y < 10000 ∧ Mo < 100 ∧ D < 100 ∧ H < 100 ∧ Mi < 100 ∧ S < 100 ∧
        F.length ≤ 9 ∧ F.all isDigit = true ∧ s = rfc3339Text Y Mo D H Mi S F ∧
        1 ≤ Mo ∧ 1 ≤ D ∧ fromParts ⟨Y, Mo, D, H, Mi, S, fracNanos F⟩ = .ok (some t) := by
  constructor
  · intro h
    -- the three guards (length, separators, zone), the six fields and the fraction, then the text rebuilt by `drop_cut`
    unfold parseRfc3339 at h
    split at h
    · cases h
    rename_i hlen
    split at h
    · cases h
    rename_i hsep
    split at h
    · cases h
    rename_i hz
    simp only [not_or, Nat.not_lt, ne_eq, Decidable.not_not] at hlen hsep hz
    obtain ⟨hs4, hs7, hs10, hs13, hs16⟩ := hsep
    obtain ⟨y, mo, dd, hh, mi, ss, n, e1, e2, e3, e4, e5, e6, e7, hfin⟩ := (parseFields_ok _ _ _ _ _ _ _ _).1 h
    obtain ⟨f1, f2, f3⟩ := (finish_ok _ _ _ _ _ _ _ _).1 hfin
    have len : ∀ a b, b ≤ s.length → (sub s a b).length = b - a := by
      intro a b hb; simp only [sub, List.length_take, List.length_drop]; omega
    obtain ⟨g1, l1⟩ := digits_render four_spec _ _ (len 0 4 (by omega)) e1
    obtain ⟨g2, l2⟩ := digits_render two_spec _ _ (len 5 7 (by omega)) e2
    obtain ⟨g3, l3⟩ := digits_render two_spec _ _ (len 8 10 (by omega)) e3
    obtain ⟨g4, l4⟩ := digits_render two_spec _ _ (len 11 13 (by omega)) e4
    obtain ⟨g5, l5⟩ := digits_render two_spec _ _ (len 14 16 (by omega)) e5
    obtain ⟨g6, l6⟩ := digits_render two_spec _ _ (len 17 19 (by omega)) e6
    -- the sub-second part and the zone
    obtain ⟨F, hF9, hFd, htail, hn⟩ : ∃ F : List UInt8, F.length ≤ 9 ∧ F.all isDigit = true ∧
        s.drop 19 = (if F = [] then [90] else 46 :: (F ++ [90])) ∧ n = fracNanos F := by
      have hend : s.drop (s.length - 1 + 1) = [] := List.drop_eq_nil_of_le (by omega)
      unfold parseNanos at e7
      split at e7
      · rename_i h20
        split at e7
        · cases e7
        rename_i hdot
        simp only [not_or, ne_eq, Decidable.not_not] at hdot
        obtain ⟨v, hv, rfl⟩ := Option.map_eq_some_iff.1 e7
        obtain ⟨hd, rfl⟩ := digits_some _ _ hv
        have hl := len 20 (s.length - 1) (by omega)
        have hne : sub s 20 (s.length - 1) ≠ [] := List.ne_nil_of_length_pos (by omega)
        refine ⟨sub s 20 (s.length - 1), by omega, hd, ?_, rfl⟩
        rw [if_neg hne, drop_cut s 19 19 46 (Nat.le_refl _) hdot.1, Nat.sub_self, List.take_zero, List.nil_append,
          drop_cut s 20 (s.length - 1) 90 (by omega) hz, hend]
        rfl
      · rename_i h20
        obtain rfl : 0 = n := Option.some.inj e7
        have e : s.length - 1 = 19 := by omega
        rw [e] at hz hend
        refine ⟨[], by simp, rfl, ?_, by simp [fracNanos, digitsVal]⟩
        rw [if_pos rfl, drop_cut s 19 19 90 (Nat.le_refl _) hz, Nat.sub_self, List.take_zero, List.nil_append, hend]
    refine ⟨y, mo, dd, hh, mi, ss, F, l1, l2, l3, l4, l5, l6, hF9, hFd, ?_, f1, f2, hn ▸ f3⟩
    -- the text, cut at its five separators
    rw [rfc3339Text, ← g1, ← g2, ← g3, ← g4, ← g5, ← g6, ← htail]
    conv => lhs; rw [← List.drop_zero (l := s), drop_cut s 0 4 45 (by omega) hs4, drop_cut s 5 7 45 (by omega) hs7,
      drop_cut s 8 10 84 (by omega) hs10, drop_cut s 11 13 58 (by omega) hs13, drop_cut s 14 16 58 (by omega) hs16,
      ← List.take_append_drop 2 (s.drop 17), List.drop_drop]
    simp only [sub, List.append_assoc, List.cons_append, List.nil_append]
  · rintro ⟨Y, Mo, D, H, Mi, S, F, hY, hMo, hD, hH, hMi, hS, hF, hFd, rfl, h1, h2, hfp⟩
    rw [parse_text Y Mo D H Mi S F hY hMo hD hH hMi hS hF hFd]
    exact (finish_ok _ _ _ _ _ _ _ _).2 ⟨h1, h2, hfp⟩

/-- Conversely every calendar-valid text of the grammar is accepted: the text of the parts of any instant in
    range, with any 0–9 sub-second digits, parses to that instant's second plus the fraction. -/
theorem ts_accepts_calendar_valid (t : Nat) (ht : t ≤ MAX_NS) (F : List UInt8) (hF : F.length ≤ 9)
    (hFd : F.all isDigit = true) :
    let p := toParts t
    parseRfc3339 (rfc3339Text p.years p.months p.days p.hours p.minutes p.seconds F) =
      .ok (t / NANOS * NANOS + fracNanos F) := by
  obtain ⟨p, hp, hr, -, hfp⟩ := toParts_fromParts t ht
  obtain ⟨⟨_, hy⟩, ⟨hmo1, hmo⟩, ⟨hd1, hd⟩, hh, hmi, hsec, -⟩ := hr
  dsimp only
  rw [toParts_eq t p hp,
    parse_text _ _ _ _ _ _ F (by omega) (by omega) (by omega) (by omega) (by omega) (by omega) hF hFd]
  exact (finish_ok _ _ _ _ _ _ _ _).2 ⟨hmo1, hd1, hfp _ (fracNanos_lt F hF hFd)⟩

/-- Formatted timestamps order lexicographically (byte-wise, which is `str`'s `Ord`) exactly as the instants do, at
    any equal precision `k ∈ 0..9` — "exactly" meaning: as the instants truncated to the `k` printed sub-second
    digits; two instants in the same 10^(9-k) ns bucket print the same text. -/
theorem fmt_order (a b k : Nat) (ha : a ≤ MAX_NS) (hb : b ≤ MAX_NS) (hk : k ≤ 9) :
    bytesLt (fmtRfc3339 (some k) a) (fmtRfc3339 (some k) b) = true ↔
      a - a % 10 ^ (9 - k) < b - b % 10 ^ (9 - k) := by
  obtain ⟨p, hp, hr1, hn1, _⟩ := toParts_fromParts a ha
  obtain ⟨q, hq, hr2, hn2, _⟩ := toParts_fromParts b hb
  obtain ⟨klt, keq⟩ := key_order a b p q hp hq
  -- text order = lexicographic order of the fields = order of the keys = order of the seconds, then the fraction
  show BLt _ _ ↔ _
  rw [fmtRfc3339, fmtRfc3339, toParts_eq a p hp, toParts_eq b q hq, fmtParts_lt k hk p q hr1 hr2,
    lex_key p q hr1 hr2, klt, keq, hn1, hn2, trunc_lt a b k hk]

/-- At full precision (`{:.9}`, which is also the default `Display`): `fmt a < fmt b ↔ a < b`. -/
theorem fmt_order_full (a b : Nat) (ha : a ≤ MAX_NS) (hb : b ≤ MAX_NS) :
    (bytesLt (fmtRfc3339 (some 9) a) (fmtRfc3339 (some 9) b) = true ↔ a < b) ∧
    (bytesLt (fmtRfc3339 none a) (fmtRfc3339 none b) = true ↔ a < b) := by
  have h := fmt_order a b 9 ha hb (Nat.le_refl 9)
  simp only [Nat.sub_self, Nat.pow_zero, Nat.mod_one, Nat.sub_zero] at h
  exact ⟨h, by rw [fmtRfc3339_none, fmtRfc3339_none]; exact h⟩

example : fmtRfc3339 (some 0) 0 = ascii "1970-01-01T00:00:00Z" := by decide +kernel
example : parseRfc3339 (ascii "1970-01-01T00:00:00Z") = .ok 0 := by decide +kernel
example : fmtRfc3339 none 1691961703000017532 = ascii "2023-08-13T21:21:43.000017532Z" := by decide +kernel

end Timestamps

/-! ## Paths: `is_valid_path` (after the D11 fix) and `is_child_of` -/
section Paths
open EmitModel.PathValid

/-- `is_valid_path` accepts exactly: a non-empty first segment of identifier characters (`XID_Start` or
    `XID_Continue` — the code is lenient about the first character of the *first* segment only), followed by any
    number of `::`-prefixed segments, each starting with an `XID_Start` character and continuing with identifier
    characters. Stated for any classification of characters that keeps `':'` out of both classes (true of
    `unicode_ident`). In particular: no empty segment, no single `:`, no `:::`, no leading or trailing separator,
    no other character. -/
theorem path_spec (xs xc : Char → Bool) (hcolon : xs ':' = false ∧ xc ':' = false) (path : List Char) :
    isValidPath xs xc path = true ↔
      ∃ first rest, path = first ++ joinSegs rest ∧ first ≠ [] ∧ (∀ c ∈ first, ident xs xc c = true) ∧
        ∀ seg ∈ rest, Seg xs xc seg := by
  constructor
  · intro h
    unfold isValidPath at h
    split at h
    · cases h
    · rename_i hne
      split at h
      · cases h
      · rename_i hhead
        cases hr : run xs xc 0 path with
        | none => simp [hr] at h
        | some sep =>
          simp only [hr, beq_iff_eq] at h
          subst h
          obtain ⟨first, rest, rfl, hf, hrs⟩ := (grammar_of_run xs xc path 0 hr).1 rfl
          refine ⟨first, rest, rfl, ?_, hf, hrs⟩
          intro h0
          subst h0
          cases rest with
          | nil => simp [joinSegs] at hne
          | cons seg rest => simp [joinSegs] at hhead
  · rintro ⟨first, rest, rfl, hne, hf, hrs⟩
    unfold isValidPath
    cases first with
    | nil => exact absurd rfl hne
    | cons c first =>
      have hc : c ≠ ':' := ident_ne_colon xs xc hcolon c (hf c (by simp))
      have hr := run_grammar xs xc hcolon (c :: first) rest hf hrs
      rw [List.cons_append] at hr
      simp [hc, hr]

/-- `is_child_of` is the segment-prefix relation on the raw bytes: the child is the parent itself, or the parent
    followed by `::` and anything. (Cutting the child inside a multi-byte character gives `false`: the model has
    the code's `is_char_boundary` guard and no panic outcome.) -/
theorem is_child_of_spec (child parent : List UInt8) :
    isChildOf child parent = true ↔ child = parent ∨ ∃ rest, child = parent ++ [58, 58] ++ rest := by
  unfold isChildOf
  constructor
  · intro h
    split at h
    · simp only [Bool.and_eq_true, beq_iff_eq, Bool.or_eq_true, List.isEmpty_iff] at h
      obtain ⟨hp, hs⟩ := h
      have hsplit := List.take_append_drop parent.length child
      rcases hs with hs | hs
      · left; rw [← hsplit, hp, hs, List.append_nil]
      · right
        obtain ⟨r, hr⟩ := (startsWith_iff _ _).1 hs
        exact ⟨r, by rw [← hsplit, hp, hr, List.append_assoc]⟩
    · cases h
  · rintro (rfl | ⟨rest, rfl⟩)
    · simp [isCharBoundary]
    · have hb : isCharBoundary (parent ++ [58, 58] ++ rest) parent.length = true := by
        unfold isCharBoundary
        by_cases h0 : parent.length = 0
        · simp [h0]
        · simp [h0, isCont]
      rw [List.append_assoc] at hb
      simp only [hb, ↓reduceIte, List.append_assoc, List.take_left', List.drop_left', beq_self_eq_true,
        Bool.true_and]
      have : startsWith (58 :: 58 :: rest) [58, 58] = true := (startsWith_iff _ _).2 ⟨rest, rfl⟩
      simp [this]

def asciiStart (c : Char) : Bool := c.isAlpha
def asciiCont (c : Char) : Bool := c.isAlphanum || c == '_'

-- D11: what the unfixed machine accepted (its "middle of an identifier" arm ignored the separator state)
example : isValidPathLegacy asciiStart asciiCont "a:b:c".toList = true := by decide +kernel
example : isValidPathLegacy asciiStart asciiCont "a::1b".toList = true := by decide +kernel
-- the fixed one refuses both; only the first segment may start with a continue character
example : isValidPath asciiStart asciiCont "a:b:c".toList = false := by decide +kernel
example : isValidPath asciiStart asciiCont "a::1b".toList = false := by decide +kernel
example : isValidPath asciiStart asciiCont "a::b1::c_d".toList = true := by decide +kernel
example : isValidPath asciiStart asciiCont "1a::b".toList = true := by decide +kernel
example : asciiStart ':' = false ∧ asciiCont ':' = false := by decide +kernel

end Paths

section LevelKind
open EmitModel.KindText

/-- Display then parse is the identity on kinds; a typed value casts to itself. -/
theorem kind_roundtrip (k : Kind) :
    parseKind k.display = some k ∧ KindVal.cast (.text k.display) = some k ∧ KindVal.cast (.typed k) = some k := by
  cases k <;> decide

/-- The kind parser, spelled out: a text is a kind iff, after trimming Unicode whitespace, it is the kind's
    name up to ASCII letter case. Anything else is an error. -/
theorem kind_strict (s : String) (k : Kind) :
    parseKind s = some k ↔ (Level.trim s.toList).map asciiLower = k.display.toList := by
  unfold parseKind parseKindChars
  simp only [eqIgnoreAsciiCase_iff]
  have e1 : "span".toList.map asciiLower = "span".toList := by decide
  have e2 : "metric".toList.map asciiLower = "metric".toList := by decide
  have ne : "span".toList ≠ "metric".toList := by decide
  rw [e1, e2]
  generalize List.map asciiLower (Level.trim s.toList) = w
  cases k with
  | span =>
    show _ ↔ w = "span".toList
    by_cases h : w = "span".toList
    · rw [if_pos h]; exact iff_of_true rfl h
    · rw [if_neg h, Option.ite_none_right_eq_some]; exact iff_of_false (fun e => nomatch e.2) h
  | metric =>
    show _ ↔ w = "metric".toList
    by_cases h : w = "span".toList
    · rw [if_pos h]; exact iff_of_false nofun fun e => ne (h.symm.trans e)
    · rw [if_neg h, Option.ite_none_right_eq_some]; exact and_iff_left rfl

/-- Levels: Display then parse is the identity (proved for C17 about the same model function that the stream
    `c17_parse` ties to `Level::from_str` / `try_from_str` / `Value::cast`). -/
theorem level_roundtrip (l : EmitModel.Level.Level) : EmitModel.Level.parseLevel l.display = some l :=
  EmitModel.C17.level_roundtrip l

/-- The lenient level parser's tail matcher, spelled out (from C17): ASCII letters spelling (case-insensitively)
    a prefix of the expected word, then nothing or a printable non-letter ASCII character and anything. -/
theorem level_lenient_spec (input expected : List Char) :
    EmitModel.Level.parseTail input expected = true ↔
      ∃ letters tail, input = letters ++ tail ∧ (∀ c ∈ letters, EmitModel.Level.isAsciiAlpha c = true) ∧
        (letters.map EmitModel.Level.asciiUpper).isPrefixOf expected = true ∧
        (tail = [] ∨ ∃ c t, tail = c :: t ∧ EmitModel.Level.isAsciiAlpha c = false ∧
          EmitModel.Level.isAsciiNonControl c = true) :=
  EmitModel.C17.parseTail_spec input expected

example : parseKind "  SpAn\t" = some .span := by decide +kernel
example : parseKind "spans" = none := by decide +kernel
example : parseKind "" = none := by decide +kernel

end LevelKind

end EmitModel.C15
