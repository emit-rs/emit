/-
  Thm/C14.lean — property C14: each event goes to exactly one OTLP signal, chosen by kind, logs as fallback.

  OBLIGATIONS (audited by `check` with `#print axioms`):
    route_evt_shape, extract_classifies, route_exactly_one, metric_goes_to_metrics, span_goes_to_traces,
    fallback_logs, fallback_logs_unqualified, discard_iff_no_signal_can_take, never_contradicts_kind,
    name_irrelevant, routeEvt_exactly_one, big_integer_goes_to_logs, empty_gauge_sequence_goes_to_logs,
    instants_irrelevant, logs_configured_never_discards, emitter_accounts_for_every_event
    (the last one in Thm/C14All.lean)
-/
import EmitModel.Lemmas.Otlp

namespace EmitModel.C14
open EmitModel.Otlp

/-! ### From events to shapes

The driver executes `routeEvt` (the code path on a concrete event: first-wins property lookup, the lenient
`Kind` parser, the streaming `Extract` visitor). The property is phrased over `Shape`s; `route_evt_shape`, after one
lemma per encoder, says the concrete path factors through `shapeOf`, so every statement below about `route` is a
statement about `routeEvt`. -/

theorem acceptsMetricEvt_eq (e : Evt) : acceptsMetricEvt e = acceptsMetric (shapeOf e) := by
  unfold acceptsMetricEvt acceptsMetric Shape.numeric shapeOf
  by_cases hk : pullKind e.props = some .metric
  · have hk' := (pullKind_iff e.props).1.1 hk
    simp only [hk, bne_self_eq_false, Bool.false_eq_true, ↓reduceIte, hk', beq_self_eq_true, Bool.true_and]
    rw [← aggIsSumLike_eq]
    cases hv : lookupFirst "metric_value" e.props with
    | none => simp [valueClass]
    | some v =>
      have h := extract_class v
      dsimp only
      -- by class, as `extract_class` has them: `.num`, `.seqNums empty`, any other
      split at h
      · simp [*]
      · obtain ⟨n, hn, h0⟩ := h
        rename_i empty _
        cases empty <;> cases n <;> simp_all
      · rw [h]
        split <;> simp_all
  · have hk' : kindClass e.props ≠ .metric := fun h => hk ((pullKind_iff e.props).1.2 h)
    simp [hk, hk']

theorem acceptsSpanEvt_eq (e : Evt) : acceptsSpanEvt e = acceptsSpan (shapeOf e) := by
  unfold acceptsSpanEvt acceptsSpan shapeOf
  by_cases hk : pullKind e.props = some .span
  · have hk' := (pullKind_iff e.props).2.1 hk
    cases he : e.extent <;> simp [hk, hk', extentClass]
  · have hk' : kindClass e.props ≠ .span := fun h => hk ((pullKind_iff e.props).2.2 h)
    simp [hk, hk']

/-- `OtlpInner::emit` on a concrete event = the shape-level decision on `shapeOf`. -/
theorem route_evt_shape (c : Cfg) (e : Evt) :
    routeEvt c e = route c.logs c.traces c.metrics (shapeOf e) := by
  simp [routeEvt, route, acceptsMetricEvt_eq, acceptsSpanEvt_eq, acceptsLogEvt, acceptsLog]

/-- What the metrics encoder's value visitor accepts, for **every** value (arbitrary nesting): it succeeds
    exactly on an i64-range integer or float and on a flat sequence of such numbers; it fails on everything
    else — text, bool, null, big integers, and any sequence that contains a non-number or another sequence. -/
theorem extract_classifies (v : Val) :
    (∃ st, extract v ⟨false, 0⟩ = some st) ↔
      (valueClass (some v) = .num ∨ ∃ b, valueClass (some v) = .seqNums b) := by
  have h := extract_class v
  split at h
  · simp [*]
  · obtain ⟨n, hn, _⟩ := h
    simp [*]
  · rename_i h1 h2
    simp only [h, reduceCtorEq, exists_false, false_iff, not_or, not_exists]
    exact ⟨h1, h2⟩

/-- Exactly one thing happens to an event: it is exported through one signal, or it is discarded and counted
    once — never both, never twice. -/
theorem route_exactly_one (l t m : Bool) (s : Shape) :
    (route l t m s).exports + (route l t m s).discards = 1 ∧
    ((∃ sig, route l t m s = .signal sig ∧ ∀ sig', route l t m s = .signal sig' → sig' = sig) ∨
      route l t m s = .discard) := by
  cases h : route l t m s with
  | discard => simp [Outcome.exports, Outcome.discards]
  | signal sig =>
    refine ⟨by simp [Outcome.exports, Outcome.discards], Or.inl ⟨sig, rfl, ?_⟩⟩
    intro sig' h'
    cases h'
    rfl

/-- A metric sample (metric kind; value a number, a non-empty flat sequence of numbers, or an empty sequence
    under a sum/count aggregation) goes through the metrics signal whenever that signal is configured,
    whatever else is configured and whatever its extent or aggregation. -/
theorem metric_goes_to_metrics (l t : Bool) (s : Shape) (hk : s.kind = .metric) (hv : s.numeric = true) :
    route l t true s = .signal .metrics := by
  simp [route, acceptsMetric, hk, hv]

/-- A span (span kind, range extent) goes through the traces signal whenever that signal is configured. -/
theorem span_goes_to_traces (l m : Bool) (s : Shape) (hk : s.kind = .span) (he : s.extent = .range) :
    route l true m s = .signal .traces := by
  simp [route, acceptsMetric, acceptsSpan, hk, he]

/-- Everything the metrics and traces signals do not take goes through logs when logs is configured. -/
theorem fallback_logs (t m : Bool) (s : Shape)
    (hm : ¬ (m = true ∧ acceptsMetric s = true)) (ht : ¬ (t = true ∧ acceptsSpan s = true)) :
    route true t m s = .signal .logs := by
  simp only [route, Bool.and_eq_true]
  simp [hm, ht, acceptsLog]

/-- The cases the property lists for the fallback: un-kinded / unknown-kinded events; metric-kinded events
    that do not qualify or whose signal is off; span-kinded events that do not qualify or whose signal is off. -/
theorem fallback_logs_unqualified (t m : Bool) (s : Shape)
    (h : (s.kind = .none ∨ s.kind = .unknown) ∨
         (s.kind = .metric ∧ (s.numeric = false ∨ m = false)) ∨
         (s.kind = .span ∧ (s.extent ≠ .range ∨ t = false))) :
    route true t m s = .signal .logs := by
  apply fallback_logs
  · rcases h with (h | h) | ⟨h, h' | h'⟩ | ⟨h, _⟩ <;> simp [acceptsMetric, *]
  · rcases h with (h | h) | ⟨h, _⟩ | ⟨h, h' | h'⟩ <;> simp [acceptsSpan, *]

/-- An event is dropped (and `event_discarded` incremented) iff no configured signal can take it; since logs
    takes everything this means: logs is off, and metrics is off or declines, and traces is off or declines. -/
theorem discard_iff_no_signal_can_take (l t m : Bool) (s : Shape) :
    route l t m s = .discard ↔
      (¬ (m = true ∧ acceptsMetric s = true) ∧ ¬ (t = true ∧ acceptsSpan s = true) ∧ l = false) := by
  simp only [route, acceptsLog, Bool.and_true]
  cases m <;> cases t <;> cases l <;> cases acceptsMetric s <;> cases acceptsSpan s <;> simp

/-- No event is exported through a signal that contradicts its kind. -/
theorem never_contradicts_kind (l t m : Bool) (s : Shape) :
    (route l t m s = .signal .traces → t = true ∧ s.kind = .span ∧ s.extent = .range) ∧
    (route l t m s = .signal .metrics → m = true ∧ s.kind = .metric ∧ s.numeric = true) ∧
    (route l t m s = .signal .logs → l = true) := by
  simp only [route, acceptsLog, Bool.and_true]
  cases hm : (m && acceptsMetric s) <;> cases ht : (t && acceptsSpan s) <;> cases l <;>
    simp_all [acceptsMetric, acceptsSpan]

/-- `metric_name` is never consulted by the routing (the name falls back to the message). -/
theorem name_irrelevant (l t m b : Bool) (s : Shape) :
    route l t m { s with hasName := b } = route l t m s := rfl

/-- The event-level statement the correspondence stream `c14` exercises. -/
theorem routeEvt_exactly_one (c : Cfg) (e : Evt) :
    (routeEvt c e).exports + (routeEvt c e).discards = 1 ∧
    (routeEvt c e = .discard ↔
      (¬ (c.metrics = true ∧ acceptsMetric (shapeOf e) = true) ∧
       ¬ (c.traces = true ∧ acceptsSpan (shapeOf e) = true) ∧ c.logs = false)) := by
  rw [route_evt_shape]
  exact ⟨(route_exactly_one _ _ _ _).1, discard_iff_no_signal_can_take _ _ _ _⟩

/-- The routing never looks at the *instants* of an extent, only at whether the extent is absent, a point or a
    range: two events with the same properties whose extents are of the same class go the same way. In
    particular an instant that does not fit the 64-bit nanosecond fields of OTLP (at or after 2^64 ns,
    2554-07-21 — `Timestamp` goes up to year 9999) is routed like any other: what is *recorded* for it is
    C13's subject (`EmitModel.C13.log_time_wraps`), no encoder may decline the event because of it. -/
theorem instants_irrelevant (c : Cfg) (x y : Extent) (props : List (String × Val))
    (h : extentClass x = extentClass y) : routeEvt c ⟨x, props⟩ = routeEvt c ⟨y, props⟩ := by
  rw [route_evt_shape, route_evt_shape]
  simp [shapeOf, h]

/-- Logs is the catch-all: with the logs signal configured **no event is ever dropped**, whatever its kind,
    its properties and its extent — it goes through exactly one signal (and through logs unless its own
    signal takes it). -/
theorem logs_configured_never_discards (c : Cfg) (e : Evt) (h : c.logs = true) :
    (∃ s, routeEvt c e = .signal s) ∧ (routeEvt c e).discards = 0 ∧
    ((¬ (c.metrics = true ∧ acceptsMetric (shapeOf e) = true) ∧
      ¬ (c.traces = true ∧ acceptsSpan (shapeOf e) = true)) → routeEvt c e = .signal .logs) := by
  cases hr : routeEvt c e with
  | discard => cases h.symm.trans ((routeEvt_exactly_one c e).2.mp hr).2.2
  | signal s =>
    refine ⟨⟨s, rfl⟩, rfl, fun ⟨hm, ht⟩ => ?_⟩
    rw [← hr, route_evt_shape, h]
    exact fallback_logs _ _ _ hm ht

/-! ### Two boundary facts of the code, recorded as theorems (see props/C14.json `assumptions`)

A `Cfg` written positionally is ⟨logs, traces, metrics⟩, an `Evt` ⟨extent, props⟩, a `Shape` ⟨kind, extent, hasName, value,
agg⟩. -/

/-- An integer outside the i64 range (e.g. `u64::MAX`) is streamed by sval as tagged *text*, so the metrics
    encoder declines it and the sample is exported as a log record. -/
theorem big_integer_goes_to_logs :
    routeEvt ⟨true, true, true⟩
      ⟨.none, [("evt_kind", .kind .metric), ("metric_agg", .str "count"),
               ("metric_value", .int 18446744073709551615)]⟩ = .signal .logs := by decide

/-- An empty sequence has no points: accepted (as a zero sum) under `sum`/`count`, declined under a gauge
    aggregation — then it falls back to logs. -/
theorem empty_gauge_sequence_goes_to_logs :
    routeEvt ⟨true, true, true⟩
      ⟨.none, [("evt_kind", .kind .metric), ("metric_agg", .str "last"), ("metric_value", .seq [])]⟩
        = .signal .logs ∧
    routeEvt ⟨true, true, true⟩
      ⟨.none, [("evt_kind", .kind .metric), ("metric_agg", .str "sum"), ("metric_value", .seq [])]⟩
        = .signal .metrics := by decide

example : ∃ s : Shape, s.kind = .metric ∧ s.numeric = true :=
  ⟨⟨.metric, .point, true, .seqNums false, .last⟩, rfl, rfl⟩
example : ∃ s : Shape, s.kind = .span ∧ s.extent = .range := ⟨⟨.span, .range, false, .missing, .missing⟩, rfl, rfl⟩
example : ∃ (t m : Bool) (s : Shape), ¬ (m = true ∧ acceptsMetric s = true) ∧ ¬ (t = true ∧ acceptsSpan s = true) :=
  ⟨true, true, ⟨.metric, .range, true, .nested, .sum⟩, by decide +kernel, by decide +kernel⟩
example : route false true true ⟨.span, .point, false, .missing, .missing⟩ = .discard := by decide +kernel
-- first-wins lookup, lenient `Kind` parser
example : routeEvt ⟨true, true, true⟩
    ⟨.range 1 2, [("evt_kind", .str " SPAN "), ("evt_kind", .kind .metric)]⟩ = .signal .traces := by decide +kernel
-- far-future instants (year 3000, `Timestamp::MAX`): a plain event, a span-kinded point event and a metric sample
-- whose signal is off all go through logs; a qualifying span stays on traces
example : routeEvt ⟨true, true, true⟩ ⟨.point 32503680000000000000, []⟩ = .signal .logs := by decide +kernel
example : routeEvt ⟨true, true, true⟩ ⟨.point 253402300799999999999, [("evt_kind", .kind .span)]⟩ = .signal .logs := by
  decide +kernel
example : routeEvt ⟨true, true, false⟩ ⟨.range 0 253402300799999999999,
    [("evt_kind", .kind .metric), ("metric_value", .int 1)]⟩ = .signal .logs := by decide +kernel
example : routeEvt ⟨true, true, true⟩ ⟨.range 32503680000000000000 253402300799999999999,
    [("evt_kind", .kind .span)]⟩ = .signal .traces := by decide +kernel
example : extentClass (.point 1) = extentClass (.point 253402300799999999999) := rfl

end EmitModel.C14
