/-
  Thm/C08Pipes.lean — C08 for the emitters built on the channel (property theorems only).

  The C08 theorems are about the channel with an ADVERSARIAL processor (any outcome sequence). The composite models
  Model/FilePipe.lean and Model/OtlpPipe.lean replace the adversary by the real processors' models; since every
  composite execution is a channel execution with the same receiver steps (`run_proj`), the bounded-liveness clause
  carries over verbatim: the processors are total functions of the model, so they cannot wedge the receiver.
-/
import EmitModel.Thm.C08
import EmitModel.Lemmas.FilePipe
import EmitModel.Lemmas.OtlpPipe

namespace EmitModel.C08
open EmitModel.Batcher EmitModel.Sched

/-- **The file emitter's flush callbacks fire within a bounded number of receiver steps.** From any reachable state
    of the rolling-file emitter as a whole in which flush watcher `w` is waiting, every execution containing more than
    `K = 4·retryMax + 5` receiver steps (hand-offs, conclusions of `Worker::on_batch` under ANY fault plan, retry and
    idle waits; any sender steps interleaved) has run its callback — unless the receiver was torn down or a filesystem
    call crashed the process. The worker cannot hold a flush up for good: a failing filesystem costs retries, the
    retries are bounded, then the batch is given up and the callback fires. -/
theorem file_callbacks_fire_bounded (cfg : FilePipe.Cfg) (fs0 : FileSet.St) (s : FilePipe.St)
    (h : FilePipe.Reachable cfg fs0 s) (w : Nat) (hw : w ∈ s.ch.pendFlushW ∨ w ∈ s.ch.rx.ws)
    (ls : List FilePipe.Label) (s' : FilePipe.St) (hrun : run (FilePipe.step cfg) s ls = some s')
    (hk : 4 * cfg.ch.retryMax + 5 < countSel FilePipe.Label.isRx ls) :
    w ∈ s'.ch.fired ∨ s'.ch.tornDown = true ∨ s'.crashed = true := by
  obtain ⟨bls, hb, hc⟩ := FilePipe.run_proj cfg ls s s' hrun
  cases hcr : s'.crashed with
  | true => exact .inr (.inr rfl)
  | false =>
    exact (callbacks_fire_bounded cfg.ch s.ch (FilePipe.reachable_proj cfg fs0 s h) w hw bls s'.ch hb
      (by rw [hc hcr]; exact hk)).imp_right .inl

/-- **… and so do an OTLP signal's**, against any collector script. -/
theorem otlp_callbacks_fire_bounded (cfg : OtlpPipe.Cfg) (net0 : Otlp.Net) (s : OtlpPipe.St)
    (h : OtlpPipe.Reachable cfg net0 s) (w : Nat) (hw : w ∈ s.ch.pendFlushW ∨ w ∈ s.ch.rx.ws)
    (ls : List OtlpPipe.Label) (s' : OtlpPipe.St) (hrun : run (OtlpPipe.step cfg) s ls = some s')
    (hk : 4 * cfg.ch.retryMax + 5 < countSel OtlpPipe.Label.isRx ls) :
    w ∈ s'.ch.fired ∨ s'.ch.tornDown = true := by
  obtain ⟨bls, hb, hc⟩ := OtlpPipe.run_proj cfg ls s s' hrun
  exact callbacks_fire_bounded cfg.ch s.ch (OtlpPipe.reachable_proj cfg net0 s h) w hw bls s'.ch hb (by rw [hc]; exact hk)

private def lcfg : FilePipe.Cfg :=
  { ch := Batcher.Cfg.real 10,
    file := { pfx := [97], ext := [108], rollBy := .minute, reuse := false, maxFiles := 3, maxSize := 100, sep := [10] },
    ev := fun x => [97 + x, 10], plan := fun _ => .err }
example : ∃ s, FilePipe.Reachable lcfg FileSet.emptyState s ∧ 7 ∈ s.ch.pendFlushW :=
  ⟨_, ⟨[.chan (.send 0), .chan (.whenFlushed 7)], rfl⟩, by decide⟩

end EmitModel.C08
