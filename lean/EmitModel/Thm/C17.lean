/-
  Thm/C17.lean — property C17: level filtering follows the most specific module rule.
  Stated against the specification `specLookup` over `regPairs` below; the trie refinement and the `::` splitting are in
  Lemmas/Level.lean.

  OBLIGATIONS (audited by `check` with `#print axioms`):
    trie_refines_spec, spec_some_iff, spec_none_iff, trie_sorted, min_level_spec, default_is_info,
    path_map_spec, reregistration_last_wins, order_irrelevant, parseTail_spec, level_roundtrip,
    segments_of_join, prefix_iff_is_child_of, owned_typed_level_kept, bare_level_spec, min_generic_spec,
    min_level_is_generic, generic_path_map_spec, path_map_is_generic, macro_level_table,
    level_macro_passes_min_iff, level_macro_passes_path_map_iff, level_span_enabled_iff
-/
import EmitModel.Lemmas.Level
import EmitModel.Lemmas.Pipeline

namespace EmitModel.C17
open EmitModel.Level Std

/-- The registrations as (segments, filter) pairs; the default minimum is the registration of the empty path. -/
def regPairs (regs : List Reg) : List (List String × MinF) := regs.map fun r => (r.segs, r.f)

/-- **Specification.** The applicable filter is the last registration of the longest registered prefix
    (at segment boundaries) of the event's module. -/
def specLookup (regs : List Reg) (m : List String) : Option MinF := longest (lastReg (regPairs regs)) m

theorem build_eq (regs : List Reg) :
    build regs = (regPairs regs).foldl (fun n r => Node.insert compare n r.1 r.2) Node.empty := by
  simp [build, regPairs, List.foldl_map]

/-- Refinement: the trie built by any sequence of `default_min_level` / `min_level` calls, walked as
    `MinLevelPathMap::matches` walks it, returns what the specification says — for every registration list
    (any order, repeats, shared textual prefixes) and every module. -/
theorem trie_refines_spec (regs : List Reg) (m : List String) :
    Node.lookup compare (build regs) m = specLookup regs m := by
  rw [build_eq]; exact lookup_foldl_insert compare _ m

/-- What the specification means, spelled out: `f` applies iff it is the last registration of some prefix
    of the module (k segments) and no longer prefix is registered at all. -/
theorem spec_some_iff (regs : List Reg) (m : List String) (f : MinF) :
    specLookup regs m = some f ↔
      ∃ k, k ≤ m.length ∧ lastReg (regPairs regs) (m.take k) = some f ∧
        ∀ j, k < j → j ≤ m.length → lastReg (regPairs regs) (m.take j) = none :=
  longest_eq_some_iff _ _ _

/-- No filter applies (the event is accepted) iff no prefix of the module, including the empty one
    (= the default), is registered. -/
theorem spec_none_iff (regs : List Reg) (m : List String) :
    specLookup regs m = none ↔ ∀ j, j ≤ m.length → lastReg (regPairs regs) (m.take j) = none :=
  longest_eq_none_iff _ _

/-- The children of every node stay strictly sorted, so the precondition of `binary_search_by_key`
    (which the model replaces by its sorted-scan meaning) holds in every reachable trie. -/
theorem trie_sorted (regs : List Reg) : Node.Sorted compare (build regs) := by
  rw [build_eq]; exact sorted_foldl_insert compare _ _ (Node.empty_sorted compare)

/-- `MinLevelFilter::matches`: accepted iff the effective level (pulled leniently from the first `lvl`
    property, else the configured default, else Info) is at least the minimum. -/
theorem min_level_spec (f : MinF) (props : List (String × LvlVal)) :
    f.matches props = (effectiveLevel f.dflt props).ge f.min := rfl

theorem default_is_info (props : List (String × LvlVal))
    (h : (lookupFirst "lvl" props).bind LvlVal.cast = none) : effectiveLevel none props = .info := by
  simp [effectiveLevel, h]

/-- `MinLevelPathMap::matches` = apply the filter the specification selects; accept when there is none. -/
theorem path_map_spec (regs : List Reg) (mdl : String) (props : List (String × LvlVal)) :
    pathMapMatches regs mdl props =
      match specLookup regs (segments mdl) with
      | none => true
      | some f => (effectiveLevel f.dflt props).ge f.min := by
  unfold pathMapMatches
  rw [trie_refines_spec]
  rfl

/-- Re-registering a path: the last registration wins. -/
theorem reregistration_last_wins (regs : List Reg) (r : Reg) :
    lastReg (regPairs (regs ++ [r])) r.segs = some r.f := by
  simp [lastReg_eq_lookupFirst, regPairs, Assoc.lookupFirst]

/-- With pairwise distinct registered paths the registration order is irrelevant. -/
theorem order_irrelevant (regs regs' : List Reg) (hp : regs.Perm regs')
    (hd : (regs.map Reg.segs).Nodup) (m : List String) :
    Node.lookup compare (build regs) m = Node.lookup compare (build regs') m := by
  rw [trie_refines_spec, trie_refines_spec]
  unfold specLookup
  have hn : (Assoc.keys (regPairs regs).reverse).Nodup :=
    ((List.reverse_perm _).map Prod.fst).nodup_iff.2 (by simpa [regPairs, Function.comp_def] using hd)
  have hp' : (regPairs regs).reverse.Perm (regPairs regs').reverse :=
    (List.reverse_perm _).trans ((hp.map _).trans (List.reverse_perm _).symm)
  have e : lastReg (regPairs regs) = lastReg (regPairs regs') := funext fun p =>
    (lastReg_eq_lookupFirst _ p).trans ((Assoc.lookupFirst_perm hp' hn p).trans (lastReg_eq_lookupFirst _ p).symm)
  rw [e]

/-- The lenient tail matcher, spelled out: the input is some ASCII letters that (upper-cased) spell a prefix
    of the expected word, followed by nothing or by a printable non-letter ASCII character and anything. -/
theorem parseTail_spec (input expected : List Char) :
    parseTail input expected = true ↔
      ∃ letters tail, input = letters ++ tail ∧ (∀ c ∈ letters, isAsciiAlpha c = true) ∧
        (letters.map asciiUpper).isPrefixOf expected = true ∧
        (tail = [] ∨ ∃ c t, tail = c :: t ∧ isAsciiAlpha c = false ∧ isAsciiNonControl c = true) := by
  induction input generalizing expected with
  | nil => exact ⟨fun _ => ⟨[], [], rfl, nofun, rfl, .inl rfl⟩, fun _ => rfl⟩
  | cons c rest ih =>
    constructor
    · intro h
      simp only [parseTail] at h
      split at h
      · rename_i ha
        cases expected with
        | nil => cases h
        | cons e es =>
          simp only at h
          split at h
          · rename_i he
            obtain ⟨letters, tail, rfl, h2, h3, h4⟩ := (ih es).1 h
            exact ⟨c :: letters, tail, rfl, by simpa [ha] using h2, by simpa [List.isPrefixOf, he] using h3, h4⟩
          · cases h
      · rename_i ha
        split at h
        · rename_i hn
          exact ⟨[], c :: rest, rfl, nofun, rfl, .inr ⟨c, rest, rfl, by simpa using ha, hn⟩⟩
        · cases h
    · rintro ⟨letters, tail, h1, h2, h3, h4⟩
      cases letters with
      | nil =>
        -- no letters: `c` opens the tail, so it is a printable non-letter
        rcases h4 with rfl | ⟨c', t, rfl, ha, hn⟩
        · cases h1
        · cases h1
          simp [parseTail, ha, hn]
      | cons l ls =>
        cases h1
        have ha := h2 c (List.mem_cons_self ..)
        cases expected with
        | nil => cases h3
        | cons e es =>
          simp only [List.map_cons, List.isPrefixOf, Bool.and_eq_true, beq_iff_eq] at h3
          simp only [parseTail, ha, if_true, h3.1, beq_self_eq_true]
          exact (ih es).2 ⟨ls, tail, rfl, fun c hc => h2 c (List.mem_cons_of_mem _ hc), h3.2, h4⟩

/-- Display then parse is the identity on levels. -/
theorem level_roundtrip (l : Level) : parseLevel l.display = some l := by
  cases l <;> decide

/-- A typed level survives buffering: after `to_owned()` it is read back through its Display text. -/
theorem owned_typed_level_kept (l : Level) : LvlVal.cast (.ownedTyped l) = LvlVal.cast (.typed l) :=
  level_roundtrip l

private def fE : MinF := ⟨.error, none⟩
private def fW : MinF := ⟨.warn, none⟩

/-- sibling sharing a textual prefix: `aa` is not governed by the registration of `a` -/
example : specLookup [.path "a" fE] (segments "aa::b") = none := by decide +kernel
example : specLookup [.path "a" fE] (segments "a::b") = some fE := by decide +kernel
/-- deepest wins regardless of order -/
example : specLookup [.path "a::b::c" fW, .path "a" fE] (segments "a::b::c::d") = some fW := by decide +kernel
example : specLookup [.path "a" fE, .path "a::b::c" fW] (segments "a::b") = some fE := by decide +kernel
example : ([Reg.path "a" fE, .path "a::b" fW].map Reg.segs).Nodup := by decide +kernel

/-- `Path::segments` (`segments` = `splitColons … []` read back as strings) inverts joining: the `::`-join of colon-free segments splits back into them. -/
theorem segments_of_join (segs : List (List Char)) (hne : segs ≠ []) (h : ∀ s ∈ segs, ColonFree s) :
    splitColons (joinSegs segs) [] = segs := by
  simpa [splitColons] using splitColons_join_append segs hne h [] (.inl rfl)

/-- **"An ancestor of it at `::` boundaries".** The segment-prefix relation the trie and the specification use
    is exactly `Path::is_child_of` on the path texts: a registered path governs a module iff the module's text
    is the path's text followed by nothing or by `::…` (so `aa::b` is not governed by `a`). -/
theorem prefix_iff_is_child_of (ps ms : List (List Char)) (hp : ps ≠ []) (hm : ms ≠ [])
    (hps : ∀ s ∈ ps, ColonFree s) (hms : ∀ s ∈ ms, ColonFree s) :
    isChildOf (joinSegs ms) (joinSegs ps) = true ↔ ps <+: ms :=
  (isChildOf_iff _ _).trans (prefix_iff_child ps ms hp hm hps hms)

example : isChildOf "aa::b".toList "a".toList = false := by decide +kernel
example : isChildOf "a::b".toList "a".toList = true := by decide +kernel

/-! ## `From<Level>`, user level types -/

/-- A bare `Level` (`From<Level> for MinLevelFilter`) is the filter with that minimum and no unleveled default:
    it accepts iff the event's level — or Info for an event without one — is at least the level. -/
theorem bare_level_spec (l : Level) (props : List (String × LvlVal)) :
    (MinF.ofLevel l).matches props = (effectiveLevel none props).ge l := rfl

/-- `MinLevelFilter<L>` for ANY level type: accepted iff the level read by `L`'s own `FromValue` from the first
    `lvl` property, else the configured default, else `L::default()`, is `>=` the minimum in `L`'s own order. -/
theorem min_generic_spec {L : Type} (T : LevelType L) (f : MinG L) (props : List (String × LvlVal)) :
    f.matches T props =
      T.ge (match (lookupFirst "lvl" props).bind T.cast with
        | some l => l
        | none => f.dflt.getD T.default) f.min := by
  unfold MinG.matches
  cases (lookupFirst "lvl" props).bind T.cast <;> rfl

/-- `emit::Level` is one instance of the generic filter. -/
theorem min_level_is_generic (f : MinF) (props : List (String × LvlVal)) :
    f.matches props = (⟨f.min, f.dflt⟩ : MinG Level).matches emitLevel props := rfl

/-- **`MinLevelPathMap<L>` for any payload.** The generic trie walk selects the last registration of the
    longest registered prefix of the module and accepts when there is none — for every registration list,
    every module and every filter type; which level type the selected filter compares is irrelevant to the
    selection. -/
theorem generic_path_map_spec {β : Type} (accept : β → Bool) (regs : List (List String × β)) (mdl : String) :
    pathMapMatchesG accept regs mdl =
      match longest (lastReg regs) (segments mdl) with
      | none => true
      | some f => accept f := by
  unfold pathMapMatchesG
  rw [buildG, lookup_foldl_insert]
  cases longest (lastReg regs) (segments mdl) <;> rfl

/-- The `emit::Level` map is the generic one. -/
theorem path_map_is_generic (regs : List Reg) (mdl : String) (props : List (String × LvlVal)) :
    pathMapMatches regs mdl props = pathMapMatchesG (fun f => f.matches props) (regPairs regs) mdl := by
  unfold pathMapMatches pathMapMatchesG buildG
  rw [build_eq]
  cases Node.lookup compare (List.foldl (fun n r => Node.insert compare n r.fst r.snd) Node.empty (regPairs regs))
    (segments mdl) <;> rfl

/-- The user level type of the harness orders severities the other way round: a minimum of 3 accepts 0-3. -/
example : (⟨3, none⟩ : MinG Nat).matches sevType [("lvl", .int 2)] = true ∧
    (⟨3, none⟩ : MinG Nat).matches sevType [("lvl", .int 4)] = false ∧
    (⟨3, none⟩ : MinG Nat).matches sevType [("lvl", .text "2")] = false ∧   -- unreadable → default 6
    (⟨7, some 7⟩ : MinG Nat).matches sevType [] = true := by decide +kernel

/-! ## The level macros against level filters -/

open EmitModel.Pipeline

/-- The level each macro family attaches (the whole table): `emit!`/`evt!`/`#[span]`/`new_span!` none,
    the `debug`/`info`/`warn`/`error` forms their own. -/
theorem macro_level_table :
    [LevelMacro.plain, .debug, .info, .warn, .error].map LevelMacro.level =
      [none, some .debug, some .info, some .warn, some .error] := by decide

/-- **An event emitted by `emit::debug!/info!/warn!/error!` passes `min_filter(min)` iff the macro's level is at
    least `min`** — whatever the other call-site properties (none of which can be `lvl`: the macro rejects a
    duplicate key), the `props:` base, the ambient properties and the filter's unleveled default are. The
    macro's level is found first because call-site properties precede base and ambient ones. -/
theorem level_macro_passes_min_iff (m : LevelMacro) (l : Level) (hm : m.level = some l) (f : MinF)
    (mdl tpl : String) (extent : Option Extent) (props base amb : List (String × Val))
    (h : NoKey "lvl" props) :
    minLevelLeaf f ⟨mdl, tpl, extent, macroProps m props ++ base ++ amb⟩ = l.ge f.min := by
  simp only [minLevelLeaf, MinF.matches, macroProps, hm, lvl_lookupFirst, List.append_assoc,
    lookupFirst_insertProp_append "lvl" (.lvl l) props (base ++ amb) h]
  rfl

/-- The same through a per-module map: the minimum registered for the longest registered prefix of the event's
    module decides; an unregistered module passes. -/
theorem level_macro_passes_path_map_iff (m : LevelMacro) (l : Level) (hm : m.level = some l) (regs : List Reg)
    (mdl tpl : String) (extent : Option Extent) (props base amb : List (String × Val))
    (h : NoKey "lvl" props) :
    pathMapLeaf regs ⟨mdl, tpl, extent, macroProps m props ++ base ++ amb⟩ =
      match specLookup regs (segments mdl) with
      | none => true
      | some f => l.ge f.min := by
  unfold pathMapLeaf
  rw [path_map_spec]
  cases hs : specLookup regs (segments mdl) with
  | none => rfl
  | some f =>
    have := level_macro_passes_min_iff m l hm f mdl tpl extent props base amb h
    simpa [minLevelLeaf, min_level_spec] using this

/-- **A span of level `l` is enabled by `min_filter(min)` iff `l >= min`** (and a plain `#[span]` iff the
    filter's unleveled default, else Info, is) — provided nothing in front of the macro's level (the call-site
    properties, the ids, the ambient context) already carries a `lvl`: the begin-span filter puts the macro's
    level LAST, so an ambient `lvl` would be read instead. -/
theorem level_span_enabled_iff (m : LevelMacro) (f : MinF) (mdl name : String)
    (ctxtProps ids amb : List (String × Val)) (h : NoKey "lvl" (ctxtProps ++ ids ++ amb)) :
    minLevelLeaf f (spanStartEvt m mdl name ctxtProps ids amb) =
      ((m.level.or f.dflt).getD .info).ge f.min := by
  have hk : NoKey "lvl" ([("evt_kind", Val.kind .span), ("span_name", .str name)] ++ ctxtProps ++ ids ++ amb) :=
    List.forall_mem_cons.2 ⟨by decide, List.forall_mem_cons.2 ⟨(by decide : "span_name" ≠ "lvl"), h⟩⟩
  simp only [minLevelLeaf, MinF.matches, spanStartEvt, lvl_lookupFirst,
    lookupFirst_append_of_noKey "lvl" _ (lvlProp m) hk]
  cases m <;> simp [lvlProp, LevelMacro.level, Pipeline.lookupFirst, Val.toLvlVal, LvlVal.cast]

/-- … and the counterpart: an ambient `lvl` in front shadows the macro's level (the code as it is). -/
example : minLevelLeaf ⟨.warn, none⟩ (spanStartEvt .error "m" "sp" [] [] [("lvl", .str "debug")]) = false := by decide +kernel
example : minLevelLeaf ⟨.warn, none⟩ (spanStartEvt .error "m" "sp" [] [] []) = true := by decide +kernel
example : NoKey "lvl" ([("n", Val.int 7)] ++ [("trace_id", .disp "2a")] ++ [("amb", .int 1)]) := by
  intro p hp; simp at hp; rcases hp with rfl | rfl | rfl <;> decide
-- the macro's level decides, not the filter's unleveled default
example : minLevelLeaf ⟨.warn, some .error⟩ ⟨"m", "t", none, macroProps .info [("a", .int 1), ("z", .int 2)] ++ [] ++ []⟩ = false := by
  decide +kernel

end EmitModel.C17
