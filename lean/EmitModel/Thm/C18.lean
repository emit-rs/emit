/-
  Thm/C18.lean — property C18: a sampling decision is made once per trace and governs everything inside it.
  Theorems about Model/Traceparent.lean (the functions the driver executes). Programs are trees of spans (body on the
  same or on a fresh thread), pushed incoming headers, carried frames and observation points; `run` threads the running
  thread's ACTIVE_TRACEPARENT, the counter rng, the sampler call count and the observation log through them.
  The decision `governed` takes as a parameter is the sampled flag of the active traceparent; that the flag of a root
  span's frame is the sampler's answer is the root branch of `openSpec`, which the runtime computes.
  On the way to the property theorems: `run_spanThread_eq`, `run_span_eq`, the two `_span` cases and `governed`.
-/
import EmitModel.Lemmas.Traceparent

namespace EmitModel.C18
open EmitModel.Traceparent

/- The sampler calls a program owes: with a sampler (`hs`) one per root span — a span opened where no valid traceparent
   is active (`validActive`) — and none without. -/
mutual
def roots (hs : Bool) (validActive : Bool) : Prog → Nat
  | .event => 0
  -- a span emitted as an event where no valid traceparent is active starts (and is all of) a new trace
  | .spanEvent => if validActive then 0 else if hs then 1 else 0
  | .span cs => (if validActive then 0 else if hs then 1 else 0) + rootsList hs true cs
  | .spanThread cs => (if validActive then 0 else if hs then 1 else 0) + rootsList hs true cs
  | .spanAsync cs => (if validActive then 0 else if hs then 1 else 0) + rootsList hs true cs
  | .push tp cs => rootsList hs tp.valid cs
  | .pushState _ cs => rootsList hs validActive cs
  | .pushBoth tp _ cs => rootsList hs tp.valid cs
  | .carry cs => rootsList hs validActive cs
def rootsList (hs : Bool) (validActive : Bool) : List Prog → Nat
  | [] => 0
  | p :: ps => roots hs validActive p + rootsList hs validActive ps
end

/- Pushed headers carry span ids from outside (`.ext`), never one of the counter's: what keeps `Below` under a push. -/
mutual
def ExtOnly : Prog → Prop
  | .event => True
  | .spanEvent => True
  | .span cs => ExtOnlyList cs
  | .spanThread cs => ExtOnlyList cs
  | .spanAsync cs => ExtOnlyList cs
  | .push tp cs => (∀ k, tp.spanId ≠ some (.gen k)) ∧ ExtOnlyList cs
  | .pushState _ cs => ExtOnlyList cs
  | .pushBoth tp _ cs => (∀ k, tp.spanId ≠ some (.gen k)) ∧ ExtOnlyList cs
  | .carry cs => ExtOnlyList cs
def ExtOnlyList : List Prog → Prop
  | [] => True
  | p :: ps => ExtOnly p ∧ ExtOnlyList ps
end

/-- the frame of a span always carries a traceparent (fresh ids: `Below`), so entering it replaces whatever the thread
    had -/
theorem run_spanThread_eq (c : Cfg) (cs : List Prog) (e : Env) (hb : Below e.st e.rng) :
    run c (.spanThread cs) e = run c (.span cs) e := by
  obtain ⟨a', hslot, -⟩ := openSpec_facts c e
  simp only [run, openSpan_eq_spec c e hb, hslot, enterSt, exitSt]

/-- stated of a `p` that is one of the three kinds of span, so that one `rw` serves the three alternatives of an
    induction; `simp` closes `hp` -/
theorem run_span_eq (c : Cfg) (cs : List Prog) (e : Env) (hb : Below e.st e.rng) {p : Prog}
    (hp : p = .span cs ∨ p = .spanAsync cs ∨ p = .spanThread cs) : run c p e = run c (.span cs) e := by
  rcases hp with rfl | rfl | rfl
  · rfl
  · exact run_spanAsync_eq c cs e
  · exact run_spanThread_eq c cs e hb

theorem sampler_once_per_root_span (c : Cfg) (cs : List Prog) (e : Env) (hb : Below e.st e.rng)
    (ih : ∀ e' : Env, Below e'.st e'.rng →
      (runList c cs e').calls = e'.calls + rootsList c.hasSampler (validOf e'.st) cs) :
    (run c (.span cs) e).calls = e.calls + ((if validOf e.st then 0 else if c.hasSampler then 1 else 0) + rootsList c.hasSampler true cs) := by
  simp only [run, openSpan_eq_spec c e hb]
  obtain ⟨a', hslot, hval, hsid, hrng, hcalls, hst⟩ := openSpec_facts c e
  simp only [hslot, enterSt, completeSpan_calls]
  have := ih { (openSpec c e).2.2.2 with st := some a' } (below_gen hsid)
  simp only [validOf_some, hval] at this
  omega

/-- **Restore.** Whatever a program does — spans, spans moved to other threads, pushed headers, carried
    frames, to any depth — the thread's current traceparent afterwards is exactly what it was before. -/
theorem restore_after (c : Cfg) (p : Prog) (e : Env) : (run c p e).st = e.st := restore c p e

/-- **The sampler runs once per new trace, at its root span.** With a sampler configured the number of sampler calls
    a program makes is exactly its number of root spans: spans opened where no valid traceparent is active (no
    enclosing span, no valid pushed header); without one it is 0 (`roots`). Never for a child span, never under a
    valid incoming header, and a carried frame continues the trace. For every sampler, every program whose pushed
    headers carry span ids from outside (`ExtOnly`) and every starting state with fresh rng ids (`Below`). -/
theorem sampler_once_per_root (c : Cfg) (p : Prog) (e : Env) (hx : ExtOnly p) (hb : Below e.st e.rng) :
    (run c p e).calls = e.calls + roots c.hasSampler (validOf e.st) p :=
  match p, e, hx, hb with
  | .event, e, _, _ => by simp [run, observeEvent, roots]
  | .spanEvent, e, _, hb => by
    simp only [run, roots, emitSpanEvent_eq_open, openSpan_eq_spec c e hb]
    obtain ⟨_, _, _, _, _, hcalls, _⟩ := openSpec_facts c e
    exact hcalls
  | .span cs, e, hx, hb | .spanAsync cs, e, hx, hb | .spanThread cs, e, hx, hb => by
    rw [run_span_eq c cs e hb]
    · simp only [roots]
      exact sampler_once_per_root_span c cs e hb (fun e' hb' => list c cs e' (by simpa [ExtOnly] using hx) hb')
    · simp
  | .push tp cs, e, hx, hb | .pushBoth tp _ cs, e, hx, hb => by
    simp only [run, roots]
    simp only [ExtOnly] at hx
    exact (list c cs _ hx.2 (below_ext hx.1 _)).trans (by simp [validOf_some, bothActive, pushedActive])
  | .pushState ts cs, e, hx, hb => by
    simp only [run, roots]
    exact (list c cs _ (by simpa [ExtOnly] using hx) (below_stateActive e.st ts e.rng hb)).trans
      (by simp [validOf_stateActive])
  | .carry cs, e, hx, hb => by
    simp only [run, roots, enterSt_self_none]
    exact list c cs e (by simpa [ExtOnly] using hx) hb
  where list (c : Cfg) : ∀ (ps : List Prog) (e : Env), ExtOnlyList ps → Below e.st e.rng →
    (runList c ps e).calls = e.calls + rootsList c.hasSampler (validOf e.st) ps
  | [], e, _, _ => by simp [runList, rootsList]
  | p :: ps, e, hx, hb => by
    simp only [ExtOnlyList] at hx
    simp only [runList, rootsList]
    have h1 := sampler_once_per_root c p e hx.1 hb
    have hst : (run c p e).st = e.st := restore c p e
    have h2 := list c ps (run c p e) hx.2 (below_run c p e hb)
    rw [hst] at h2
    omega

/- No header is pushed: the program stays in the trace it starts in (a pushed header may belong to another trace). -/
mutual
def NoPush : Prog → Prop
  | .event => True
  | .spanEvent => True
  | .span cs => NoPushList cs
  | .spanThread cs => NoPushList cs
  | .spanAsync cs => NoPushList cs
  | .push _ _ => False
  | .pushState _ cs => NoPushList cs      -- pushing a tracestate does not touch the traceparent
  | .pushBoth _ _ _ => False
  | .carry cs => NoPushList cs
def NoPushList : List Prog → Prop
  | [] => True
  | p :: ps => NoPush p ∧ NoPushList ps
end

def Silent : Obs → Prop
  | .sampler _ _ _ => False
  | .spanOpen enabled _ => enabled = false
  | .spanDone _ => False
  | .event cur _ ids _ passIn => cur.sampled = false ∧ ids = Ids.empty ∧ passIn = false
  -- a span emitted as an event is rejected by both filters (so the runtime does not emit it)
  | .spanEvent _ pass passIn => pass = false ∧ passIn = false

def InTrace (t : Option Id) : Obs → Prop
  | .sampler _ _ _ => False
  | .spanOpen enabled ids => enabled = true ∧ ids.traceId = t
  | .spanDone ids => ids.traceId = t ∧ ids.spanId.isSome = true
  | .event cur _ ids _ passIn =>
    cur.traceId = t ∧ cur.sampled = true ∧ passIn = true ∧ ids.traceId = t ∧ ids.spanId = cur.spanId
  -- a span emitted as an event passes both filters and is in the trace
  | .spanEvent ids pass passIn => pass = true ∧ passIn = true ∧ ids.traceId = t ∧ ids.spanId.isSome = true

def Governed (b : Bool) (t : Option Id) (o : Obs) : Prop :=
  match b with
  | true => InTrace t o
  | false => Silent o

theorem governed_span (c : Cfg) (cs : List Prog) (e : Env) (a : Active) (hb : Below e.st e.rng)
    (hst : e.st = some a) (hv : a.tp.valid = true)
    (ih : ∀ (e' : Env) (a' : Active), Below e'.st e'.rng → e'.st = some a' → a'.tp.valid = true →
      ∀ o ∈ (runList c cs e').out, o ∈ e'.out ∨ Governed a'.tp.sampled a'.tp.traceId o) :
    ∀ o ∈ (run c (.span cs) e).out, o ∈ e.out ∨ Governed a.tp.sampled a.tp.traceId o := by
  intro o ho
  obtain ⟨child, seen, n, f, hopen, hn, hf, hseen⟩ := openSpec_valid c e a hst hv
  simp only [run, openSpan_eq_spec c e hb, hopen, enterSt] at ho
  have ih' := ih ⟨some ⟨⟨a.tp.traceId, some (.gen n), f⟩, a.tp.spanId, a.state⟩, n, e.calls,
    .spanOpen a.tp.sampled seen :: e.out⟩ _ (below_gen rfl) rfl (valid_child a _ f hv)
  have hs' : (⟨a.tp.traceId, some (.gen n), f⟩ : TP).sampled = a.tp.sampled := hf
  simp only [hs'] at ih'
  -- the `spanDone` on top (sampled only), then the body, then the `spanOpen`
  rcases mem_completeSpan ho with ⟨hs, rfl⟩ | ho
  · right
    rw [restore.restoreList c cs]
    simp [Governed, InTrace, ambientIds, hs', hs]
  rcases ih' o ho with h | h
  · rcases List.mem_cons.1 h with rfl | h
    · right
      cases hs : a.tp.sampled with
      | false => simp [Governed, Silent]
      | true => simp [Governed, InTrace, (hseen hs).1]
    · exact Or.inl h
  · exact Or.inr h

/-- Under a valid active traceparent every observation a program adds is what that traceparent's sampled flag dictates,
    in every subtree, as long as no header is pushed inside (`NoPush`). -/
theorem governed (c : Cfg) : ∀ (p : Prog) (e : Env) (a : Active), NoPush p → Below e.st e.rng →
    e.st = some a → a.tp.valid = true →
    ∀ o ∈ (run c p e).out, o ∈ e.out ∨ Governed a.tp.sampled a.tp.traceId o
  | .event, e, a, _, _, hst, _ => by
    intro o ho
    simp only [run, observeEvent, hst, List.mem_cons] at ho
    rcases ho with rfl | ho
    · right
      cases hs : a.tp.sampled <;> simp [Governed, Silent, InTrace, current, ambientIds, hs]
    · exact Or.inl ho
  | .spanEvent, e, a, _, hb, hst, hv => by
    intro o ho
    obtain ⟨child, seen, n, f, hopen, _, _, hseen⟩ := openSpec_valid c e a hst hv
    simp only [run, emitSpanEvent_eq_open, openSpan_eq_spec c e hb, hopen, asSpanEvent, passInSampled, hst,
      List.mem_cons] at ho
    rcases ho with rfl | ho
    · right
      cases hs : a.tp.sampled with
      | false => simp [Governed, Silent]
      | true => simp [Governed, InTrace, hseen hs]
    · exact Or.inl ho
  | .span cs, e, a, hn, hb, hst, hv | .spanAsync cs, e, a, hn, hb, hst, hv | .spanThread cs, e, a, hn, hb, hst, hv => by
    rw [run_span_eq c cs e hb]
    · exact governed_span c cs e a hb hst hv
        (fun e' a' hb' hst' hv' => governed_list c cs e' a' (by simpa [NoPush] using hn) hb' hst' hv')
    · simp
  | .push _ _, _, _, hn, _, _, _ | .pushBoth _ _ _, _, _, hn, _, _, _ => by simp [NoPush] at hn
  | .pushState ts cs, e, a, hn, hb, hst, hv => by
    intro o ho
    simp only [run] at ho
    exact governed_list c cs { e with st := some (stateActive e.st ts) } { a with state := ts }
      (by simpa [NoPush] using hn) (below_stateActive e.st ts e.rng hb) (by simp [stateActive, hst]) hv o
      (by simpa using ho)
  | .carry cs, e, a, hn, hb, hst, hv => by
    intro o ho
    simp only [run, enterSt_self_none] at ho
    exact governed_list c cs e a (by simpa [NoPush] using hn) hb hst hv o (by simpa using ho)
  where governed_list (c : Cfg) : ∀ (ps : List Prog) (e : Env) (a : Active), NoPushList ps → Below e.st e.rng →
    e.st = some a → a.tp.valid = true →
    ∀ o ∈ (runList c ps e).out, o ∈ e.out ∨ Governed a.tp.sampled a.tp.traceId o
  | [], e, _, _, _, _, _ => by intro o ho; exact Or.inl ho
  | p :: ps, e, a, hn, hb, hst, hv => by
    intro o ho
    simp only [NoPushList] at hn
    simp only [runList] at ho
    have hst' : (run c p e).st = some a := by rw [restore c p e, hst]
    rcases governed_list c ps (run c p e) a hn.2 (below_run c p e hb) hst' hv o ho with h | h
    · exact governed c p e a hn.1 hb hst hv o h
    · exact Or.inr h

/-- **Unsampled traces are silent.** Inside an unsampled trace (a valid, unsampled traceparent is active) no
    span is enabled, no span event is emitted, the sampler is not consulted, the current traceparent reports
    unsampled, no ids are visible, and the sampled-trace filter rejects every event — for every subtree,
    including bodies moved to other threads and carried frames, in which no header is pushed (`NoPush`). -/
theorem unsampled_silent (c : Cfg) : ∀ (p : Prog) (e : Env) (a : Active), NoPush p → Below e.st e.rng →
    e.st = some a → a.tp.valid = true → a.tp.sampled = false →
    ∀ o ∈ (run c p e).out, o ∈ e.out ∨ Silent o :=
  fun p e a hn hb hst hv hs o ho => by simpa only [hs, Governed] using governed c p e a hn hb hst hv o ho

/-- **Sampled traces: everything logged is enabled and carries the trace.** Inside a sampled trace (no header
    pushed: `NoPush`) every span that opens is enabled, every span completion logged shares the trace id (that
    there is one per span is `span_in_sampled_trace`), the sampler is not consulted again, every event passes the
    sampled-trace filter, and the current traceparent is sampled, in the trace, with the span id that is also
    the ambient span id. -/
theorem sampled_in_trace (c : Cfg) : ∀ (p : Prog) (e : Env) (a : Active), NoPush p → Below e.st e.rng →
    e.st = some a → a.tp.valid = true → a.tp.sampled = true →
    ∀ o ∈ (run c p e).out, o ∈ e.out ∨ InTrace a.tp.traceId o :=
  fun p e a hn hb hst hv hs o ho => by simpa only [hs, Governed] using governed c p e a hn hb hst hv o ho

/-- **The current traceparent is (trace id, innermost span id, flags).** A span opened inside a sampled trace
    runs its children with `Traceparent::current() = (the trace id, the span's own fresh id, the inherited
    flags)` and `span_parent` = the id of the span it is directly nested in (or of the pushed header); on
    completion it emits exactly one span event with those ids; afterwards the previous traceparent is back. -/
theorem span_in_sampled_trace (c : Cfg) (cs : List Prog) (e : Env) (a : Active) (hb : Below e.st e.rng)
    (hst : e.st = some a) (hv : a.tp.valid = true) (hs : a.tp.sampled = true) :
    let sid := Id.gen (e.rng + 1)
    let inner : Active := ⟨⟨a.tp.traceId, some sid, a.tp.flags % 256⟩, a.tp.spanId, a.state⟩
    let e2 := runList c cs { e with st := some inner, rng := e.rng + 1,
                                    out := .spanOpen true ⟨a.tp.traceId, a.tp.spanId, some sid⟩ :: e.out }
    run c (.span cs) e = { e2 with st := e.st, out := .spanDone ⟨a.tp.traceId, a.tp.spanId, some sid⟩ :: e2.out } := by
  have hs' := (sampled_all a.tp a.tp.traceId (some (.gen (e.rng + 1)))).trans hs
  simp only [run, openSpan_eq_spec c e hb, openSpec_sampled c e a hst hv hs, enterSt, exitSt, completeSpan, if_true]
  rw [restore.restoreList c cs]
  simp [ambientIds, hs', hst]

/-- An event reports exactly the active traceparent; ids are visible only when it is sampled. -/
theorem event_reports_current (c : Cfg) (e : Env) (a : Active) (hst : e.st = some a) :
    run c .event e = { e with out := .event a.tp a.state (if a.tp.sampled then ⟨a.tp.traceId, a.spanParent, a.tp.spanId⟩ else Ids.empty)
                                      true a.tp.sampled :: e.out } := by
  simp [run, observeEvent, hst, current, currentState, ambientIds]

/-- **An incoming header makes the next spans children of the caller's span.** Under a pushed valid sampled
    header a span gets the header's trace id and the header's span id as its parent, without a sampler call. -/
theorem pushed_header_parents_spans (c : Cfg) (tp : TP) (cs : List Prog) (e : Env)
    (hx : ∀ k, tp.spanId ≠ some (.gen k)) (hv : tp.valid = true) (hs : tp.sampled = true) :
    let sid := Id.gen (e.rng + 1)
    let inner : Active := ⟨⟨tp.traceId, some sid, tp.flags % 256⟩, tp.spanId, currentState e.st⟩
    let e2 := runList c cs { e with st := some inner, rng := e.rng + 1,
                                    out := .spanOpen true ⟨tp.traceId, tp.spanId, some sid⟩ :: e.out }
    run c (.push tp [.span cs]) e = { e2 with st := e.st, out := .spanDone ⟨tp.traceId, tp.spanId, some sid⟩ :: e2.out } := by
  have h := span_in_sampled_trace c cs { e with st := some (pushedActive e.st tp) } (pushedActive e.st tp)
    (below_ext hx _) rfl
    (by simpa [pushedActive] using hv) (by simpa [pushedActive] using hs)
  rw [run, runList, runList, h]
  simp [pushedActive]

/-- **Async spans behave like sync spans.** A span whose body is a future polled once per segment (the frame is
    entered and exited around every poll, swapping its slot with the thread's traceparent each time) makes
    exactly the observations of the span whose body runs inside one entered frame. -/
theorem async_polls_transparent (c : Cfg) (cs : List Prog) (e : Env) :
    run c (.spanAsync cs) e = run c (.span cs) e := run_spanAsync_eq c cs e

/-- **Without a sampler every new trace is sampled** and nothing is consulted: a root span opened by a
    sampler-less `TraceparentFilter` is enabled, its trace is sampled, the call count does not move. Stated of
    `openSpec`, which is what `SpanGuard::new` computes while rng ids are fresh (`openSpan_eq_spec`). -/
theorem root_without_sampler_is_sampled (c : Cfg) (e : Env) (hns : c.hasSampler = false)
    (hv : validOf e.st = false) :
    (openSpec c e).1 = true ∧ (openSpec c e).2.2.2.calls = e.calls ∧
    ∃ a, (openSpec c e).2.2.1 = some a ∧ a.tp.sampled = true ∧ a.spanParent = none := by
  have hf := validOf_eq_false.1 hv
  unfold openSpec
  simp only [hf, hns, Bool.false_eq_true, if_false]
  exact ⟨trivial, trivial, _, rfl, by simp [TP.sampled], rfl⟩

/-! ### Spans emitted as events (no guard) are governed by the same decision -/

/-- **A manual span gets the verdict a guard would get.** A completed span emitted as an event through the
    runtime (range extent, `evt_kind: span`, ids of a new child of the current span context) is accepted by
    `TraceparentFilter` exactly when `SpanGuard::new` at the same point would have been enabled; it draws the same
    ids, costs the same sampler calls and logs the same sampler observation — and leaves the thread's traceparent
    alone (no frame). For every configuration and state, no freshness assumption. -/
theorem span_event_filtered_like_span_start (c : Cfg) (e : Env) :
    (run c .spanEvent e).st = e.st ∧
    (run c .spanEvent e).rng = (openSpan c e).2.2.2.rng ∧
    (run c .spanEvent e).calls = (openSpan c e).2.2.2.calls ∧
    ∃ seen rest, (openSpan c e).2.2.2.out = .spanOpen (openSpan c e).1 seen :: rest ∧
      (run c .spanEvent e).out = .spanEvent seen (openSpan c e).1 (passInSampled c e.st) :: rest := by
  refine ⟨by simp [run], rfl, rfl, _, _, rfl, rfl⟩

/-- **Inside an unsampled trace a span emitted as an event is rejected**, whatever its extent: under a valid
    unsampled traceparent `TraceparentFilter` answers `false` (so the runtime does not emit it), so does
    `InSampledTraceFilter`, the sampler is not called and nothing else is logged. -/
theorem span_event_in_unsampled_trace_rejected (c : Cfg) (e : Env) (a : Active) (hb : Below e.st e.rng)
    (hst : e.st = some a) (hv : a.tp.valid = true) (hs : a.tp.sampled = false) :
    ∃ seen n, e.rng ≤ n ∧
      run c .spanEvent e = { e with rng := n, out := .spanEvent seen false false :: e.out } := by
  refine ⟨⟨some (.gen (e.rng + 1)), none, some (.gen (e.rng + 2))⟩, e.rng + 2, by omega, ?_⟩
  simp only [run, emitSpanEvent_eq_open, openSpan_eq_spec c e hb, openSpec_unsampled c e a hst hv hs, asSpanEvent,
    passInSampled, hst, hs]

/-- **Inside a sampled trace a span emitted as an event is accepted and belongs to the trace**: both filters
    answer `true`, the span carries the trace id, the current span id as its parent and one fresh span id; the
    sampler is not called. -/
theorem span_event_in_sampled_trace_accepted (c : Cfg) (e : Env) (a : Active) (hb : Below e.st e.rng)
    (hst : e.st = some a) (hv : a.tp.valid = true) (hs : a.tp.sampled = true) :
    run c .spanEvent e =
      { e with rng := e.rng + 1,
               out := .spanEvent ⟨a.tp.traceId, a.tp.spanId, some (.gen (e.rng + 1))⟩ true true :: e.out } := by
  simp only [run, emitSpanEvent_eq_open, openSpan_eq_spec c e hb, openSpec_sampled c e a hst hv hs, asSpanEvent,
    passInSampled, hst, hs]

/-- **Outside any trace a span emitted as an event is a trace of its own**: with a sampler configured the sampler
    is consulted exactly once and its answer is the verdict; without one the span is accepted and nothing is
    consulted. `InSampledTraceFilter` answers as configured for events outside traces when nothing at all is
    active. -/
theorem span_event_outside_trace (c : Cfg) (e : Env) (hv : validOf e.st = false) :
    ∃ seen rest, (run c .spanEvent e).out = .spanEvent seen (if c.hasSampler then c.decide e.calls else true)
        (passInSampled c e.st) :: rest ∧
      (run c .spanEvent e).calls = e.calls + (if c.hasSampler then 1 else 0) ∧
      (c.hasSampler = false → rest = e.out) := by
  have hf := validOf_eq_false.1 hv
  -- an invalid active traceparent is ignored by `incoming`: no freshness assumption is needed
  simp only [run, emitSpanEvent, incoming, hf, passInSampled]
  cases c.hasSampler
  · simp [applyMask, TP.sampled]; cases e.st <;> rfl
  · cases c.decide e.calls <;> simp [maskIsSampled, applyMask, TP.sampled] <;> cases e.st <;> rfl

/-- **Defect (before the fix)**: a frame captured with `Frame::current` was inactive, so on a fresh thread the
    trace was lost: no active traceparent there. -/
theorem carry_unfixed_loses_trace (st : Option Active) : carryUnfixedInside st = none := rfl

/-! ### Tracestate travels with the traceparent and never changes the decision -/

/-- **Pushing a tracestate does not touch the trace.** Under `Tracestate::push` the current traceparent, the
    ambient ids, whether a valid traceparent is active (so whether the next span is a root and costs a sampler
    call) and the sampled flag are exactly what they were; only `Tracestate::current()` changes. -/
theorem push_state_keeps_traceparent (st : Option Active) (ts : Nat) :
    current (some (stateActive st ts)) = current st ∧
    ambientIds (some (stateActive st ts)) = ambientIds st ∧
    validOf (some (stateActive st ts)) = validOf st ∧
    currentState (some (stateActive st ts)) = ts := by
  refine ⟨?_, ?_, validOf_stateActive st ts, ?_⟩ <;> cases st <;> rfl

/-- **`emit_traceparent::push(tp, ts)` is `Traceparent::push(tp)` with `Tracestate::push(ts)` inside it** (the
    free function carries its own copy of the span-parent rule; this says the copy agrees). -/
theorem push_both_is_push_then_state (c : Cfg) (tp : TP) (ts : Nat) (cs : List Prog) (e : Env) :
    run c (.pushBoth tp ts cs) e = run c (.push tp [.pushState ts cs]) e := by
  simp [run, runList, bothActive, stateActive]

/-- **Children inherit the tracestate, a new trace starts with the empty one.** The frame of a span opened
    under a valid traceparent carries that traceparent's tracestate; a root span's frame carries the empty
    tracestate (whatever an invalid active traceparent held). Stated of `openSpec` (see `openSpan_eq_spec`). -/
theorem span_tracestate (c : Cfg) (e : Env) :
    ∃ a', (openSpec c e).2.2.1 = some a' ∧
      a'.state = (match e.st.filter (fun a => a.tp.valid) with | some a => a.state | none => 0) := by
  unfold openSpec
  cases hf : e.st.filter (fun a => a.tp.valid) with
  | none => dsimp only; cases c.hasSampler <;> exact ⟨_, rfl, rfl⟩
  | some a => exact ⟨_, rfl, rfl⟩

/-- A traceparent pushed by header keeps the tracestate in force. -/
theorem push_keeps_state (st : Option Active) (tp : TP) : (pushedActive st tp).state = currentState st := rfl

-- a sampler is configured, it answers `true` then `false`; outside traces `InSampledTraceFilter` answers `false`
private def cfg0 : Cfg := ⟨true, [true, false], false⟩
example : (run cfg0 (.span [.event, .span [.event]]) env0).calls = 1 := by decide +kernel
example : (run cfg0 (.span [.carry [.span []], .spanThread [.event]]) env0).calls = 1 := by decide +kernel
-- a span under an invalid pushed header is a root again; nothing is owed without a sampler
example : roots true false (.span [.span [], .push ⟨none, none, 1⟩ [.span []]]) = 2 := by decide +kernel
example : roots false false (.span [.span [], .push ⟨none, none, 1⟩ [.span []]]) = 0 := by decide +kernel
-- a tracestate pushed inside a trace is seen by events in child spans; the sampler still runs once
example : (run cfg0 (.span [.pushState 7 [.span [.event]]]) env0).calls = 1 := by decide +kernel
example : ((run cfg0 (.span [.pushState 7 [.span [.event]]]) env0).out.any fun o =>
    match o with | .event _ 7 _ _ _ => true | _ => false) = true := by decide +kernel
-- … while one pushed outside any trace is dropped when a root span starts
example : ((run cfg0 (.pushState 7 [.span [.event]]) env0).out.any fun o =>
    match o with | .event _ 0 _ _ _ => true | _ => false) = true := by decide +kernel

-- spans emitted as events: an unsampled trace rejects them without a sampler call …
private def unsampledEnv : Env := ⟨some ⟨⟨some (.ext 1000001), some (.ext 1000000), 0⟩, none, 0⟩, 0, 0, []⟩
private def sampledEnv : Env := ⟨some ⟨⟨some (.ext 1000001), some (.ext 1000000), 1⟩, none, 0⟩, 0, 0, []⟩
example : Below unsampledEnv.st unsampledEnv.rng ∧ Below sampledEnv.st sampledEnv.rng := by
  constructor <;> (intro a k h1 h2; cases h1; cases h2)
example : run cfg0 .spanEvent unsampledEnv =
    { unsampledEnv with rng := 2, out := [.spanEvent ⟨some (.gen 1), none, some (.gen 2)⟩ false false] } := by decide +kernel
-- … a sampled one accepts them as children of the current span …
example : run cfg0 .spanEvent sampledEnv =
    { sampledEnv with rng := 1, out := [.spanEvent ⟨some (.ext 1000001), some (.ext 1000000), some (.gen 1)⟩ true true] } := by
  decide +kernel
-- … and outside any trace each one is a root of its own: the sampler decides, one call each
example : (runList cfg0 [.spanEvent, .spanEvent, .event] env0).calls = 2 ∧
    (runList cfg0 [.spanEvent, .spanEvent] env0).out =
      [.spanEvent ⟨some (.gen 3), none, some (.gen 4)⟩ false false, .sampler (some (.gen 3)) (.gen 4) false,
       .spanEvent ⟨some (.gen 1), none, some (.gen 2)⟩ true false, .sampler (some (.gen 1)) (.gen 2) true] := by decide +kernel
example : roots true false (.span [.spanEvent]) = 1 ∧ roots true false .spanEvent = 1 ∧
    rootsList true false [.spanEvent, .push ⟨some (.ext 1000001), some (.ext 1000000), 0⟩ [.spanEvent]] = 1 := by decide +kernel
-- a rejected manual span inside a span whose trace the sampler refused
example : ((run cfg0 (.span [.span [.spanEvent]]) { env0 with calls := 1 }).out.any fun o =>
    match o with | .spanEvent _ false false => true | _ => false) = true := by decide +kernel

end EmitModel.C18
