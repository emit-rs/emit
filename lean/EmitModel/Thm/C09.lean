/-
  Thm/C09.lean — property C09: emitting never blocks or grows without bound; overflow drops the oldest, counted.
  Property theorems only; the inductive invariants live in Lemmas/Batcher.lean.

  OBLIGATIONS (audited by `check` with `#print axioms`):
    capacity_bound, send_overflow_keeps_newest, truncation_discards_exactly_capacity, send_no_overflow_appends,
    send_total, sampling_is_a_read, try_send_hands_back, send_or_wait_partial, sendCount_refines_send,
    sendN_bound, blocking_variants_are_base_steps, counters_count_exactly, blocking_send_never_truncates,
    send_or_wait_asks_remaining, send_or_wait_total_wait_bound
-/
import EmitModel.Lemmas.Batcher
import EmitModel.Lemmas.BatcherExt
import EmitModel.Model.OtlpE2E

namespace EmitModel.C09
open EmitModel.Batcher EmitModel.Sched

/-- **Bound.** For every capacity ≥ 1, under every interleaving (receiver never running, processor never
    returning, … are just label lists without those labels) the pending queue never exceeds the capacity. -/
theorem capacity_bound (cfg : Cfg) (hcap : 1 ≤ cfg.cap) (s : St) (h : Reachable cfg s) :
    s.pending.length ≤ cfg.cap :=
  (invCap_reachable cfg hcap s h).bound

/-- **Overflow keeps the newest, counted.** A plain `send` that finds the (open) queue full discards the whole
    older queue, keeps the new item, and the truncation counter goes up by exactly one; the discarded segment is
    what was pending. (Any state, not only reachable ones.) -/
theorem send_overflow_keeps_newest (cfg : Cfg) (s : St) (x : Nat) (ho : s.isOpen = true)
    (hfull : cfg.cap ≤ s.pending.length) :
    (send cfg s x).pending = [x] ∧
    (send cfg s x).mTruncated = s.mTruncated + 1 ∧
    (send cfg s x).truncations = s.truncations ++ [s.pending] ∧
    (send cfg s x).accepted = s.accepted ++ [x] := by
  simp [send_eq, hfull, ho]

/-- Every truncation discards exactly `capacity` items (the queue is full exactly when it holds `capacity`), so the
    number of discarded items is `capacity × queue_full_truncated` — the conservation law the multi-threaded soak
    (stream `batcher_mt`) checks on real threads. -/
theorem truncation_discards_exactly_capacity (cfg : Cfg) (hcap : 1 ≤ cfg.cap) (s : St) (h : Reachable cfg s) :
    (∀ seg ∈ s.truncations, seg.length = cfg.cap) ∧
    s.truncations.flatten.length = cfg.cap * s.mTruncated := by
  have i := invCap_reachable cfg hcap s h
  refine ⟨i.segs, ?_⟩
  rw [← (invPart_reachable cfg s h).truncCount, List.length_flatten, List.map_congr_left i.segs, List.map_const',
    List.sum_replicate_nat, Nat.mul_comm]

/-- Below capacity nothing is discarded: the item is appended and the counter is unchanged. -/
theorem send_no_overflow_appends (cfg : Cfg) (s : St) (x : Nat) (ho : s.isOpen = true)
    (hroom : s.pending.length < cfg.cap) :
    (send cfg s x).pending = s.pending ++ [x] ∧
    (send cfg s x).mTruncated = s.mTruncated ∧
    (send cfg s x).truncations = s.truncations := by
  simp [send_eq, Nat.not_le.mpr hroom, ho]

/-- **`send` never waits.** With the `Sender` in hand, `send` is enabled in every state whatsoever — whatever the
    receiver is doing, however full the queue — and is one atomic step that leaves the receiver untouched. -/
theorem send_total (cfg : Cfg) (s : St) (x : Nat) (ha : s.senderAlive = true) :
    ∃ s', step cfg s (.send x) = some s' ∧ s'.rx = s.rx ∧ s'.senderAlive = true := by
  have hs : step cfg s (.send x) = some (send cfg s x) := by simp [step, ha]
  refine ⟨_, hs, ?_⟩
  generalize send cfg s x = s' at hs
  cases Step.of_step hs <;> exact ⟨rfl, ha⟩

/-- **Sampling never holds the lock while calling out**: in the model `sample_metrics` is `sampleQueueLength`, a
    function of the state (it cannot change it, and the model has no lock to hold). What is stated: its value is
    within the bound, and in that very state a `send` — what a sampler that emits into the channel it samples
    performs — is enabled and is one atomic step (`send_total`), never a wait on itself. -/
theorem sampling_is_a_read (cfg : Cfg) (hcap : 1 ≤ cfg.cap) (s : St) (h : Reachable cfg s) (x : Nat)
    (ha : s.senderAlive = true) :
    sampleQueueLength s ≤ cfg.cap ∧ ∃ s', step cfg s (.send x) = some s' ∧ s'.rx = s.rx := by
  refine ⟨capacity_bound cfg hcap s h, ?_⟩
  obtain ⟨s', h1, h2, _⟩ := send_total cfg s x ha
  exact ⟨s', h1, h2⟩

/-- **`try_send` never discards silently**: on an open channel it either appends the item, or returns that very
    item with the state unchanged; on a closed channel it changes nothing (and reports the closure). -/
theorem try_send_hands_back (cfg : Cfg) (s : St) (x : Nat) :
    (s.isOpen = true ∧ s.pending.length < cfg.cap ∧ trySend cfg s x = (push s x, .ok)) ∨
    (s.isOpen = true ∧ cfg.cap ≤ s.pending.length ∧ trySend cfg s x = (s, .full x)) ∨
    (s.isOpen = false ∧ trySend cfg s x = (s, .closed)) := by
  unfold trySend
  by_cases ho : s.isOpen <;> by_cases hc : s.pending.length < cfg.cap <;> simp [ho, hc] <;> omega

/-- **The waiting variants** (`send_or_wait`, behind `blocking_send` / async `send`): whatever the clock readings
    and however often the queue was found full again, the call ends with the item enqueued (`ok` — and then some
    `try_send` returned `ok`), or hands back the very item it was given; an error *without* the item is only
    possible when a `try_send` found the channel closed (receiver gone — outside the property's scope, DESIGN §8 F4).
    `_partial`: that the call returns within its timeout is a runtime property of the condvar / timer
    (sampled by stream `batcher_blocking`). -/
theorem send_or_wait_partial (timeout : Nat) (x : Nat) (first : TryRes) (obs : List (Nat × TryRes)) (r : SendRes)
    (hfirst : ∀ y, first = .full y → y = x) (hobs : ∀ p ∈ obs, ∀ y, p.2 = .full y → y = x)
    (h : sendOrWait timeout first obs = some r) :
    (r = .ok ∧ (first = .ok ∨ ∃ p ∈ obs, p.2 = .ok)) ∨ r = .handedBack x ∨
    (r = .errNoItem ∧ (first = .closed ∨ ∃ p ∈ obs, p.2 = .closed)) := by
  unfold sendOrWait at h
  cases first with
  | ok => cases h; exact .inl ⟨rfl, .inl rfl⟩
  | full _ | closed =>
    refine (sendOrWaitLoop_spec timeout x r _ obs ?_ hfirst hobs h).imp_left (And.imp_right .inr)
    exact nofun

/-- **The blocking / async sends add nothing to the channel but a counter.** In the extended system (every label of
    the base system plus `sendOrWaitFirst`, the first attempt of `sync::blocking_send` / `tokio::blocking_send` /
    `tokio::send`; their later rounds are `whenEmpty` and `trySend` labels) every reachable channel state is a
    reachable state of the base system: the bound, keep-newest, partition, … theorems hold under ANY mix of plain,
    fallible, blocking and async sends from any number of threads. -/
theorem blocking_variants_are_base_steps (cfg : Cfg) (b : BSt) (h : BReachable cfg b) : Reachable cfg b.st :=
  Sched.Reachable.proj (proj := BSt.st) (fun b l b' hs => .inl ⟨l.erase, bstep_erase cfg b b' l hs⟩) h

/-- **Count every drop, and nothing else.** Along EVERY execution of the extended system — any interleaving of
    plain sends, try_sends, blocking / async sends, watcher registrations and receiver steps — the truncation
    counter equals the number of plain `send`s that found the queue full (each of which discarded exactly the
    pending queue, `send_overflow_keeps_newest`), and the blocked counter equals the number of blocking / async
    sends whose first attempt failed. Neither counter is moved by anything else. -/
theorem counters_count_exactly (cfg : Cfg) (ls : List BLabel) (b : BSt) (h : run (bstep cfg) binit ls = some b) :
    b.st.mTruncated = countAlong cfg (truncatingSend cfg) binit ls ∧
    b.mBlocked = countAlong cfg (blockedSend cfg) binit ls := by
  have := brun_counters cfg ls binit b h
  simpa [binit, init] using this

/-- **The blocking variants never discard anything and never count a truncation**: the first attempt of
    `send_or_wait` leaves the truncation counter and the truncated segments alone; if it fails, the channel state is
    exactly what it was (the item comes back in the result: `full x`) and only `queue_full_blocked` moves, by one;
    if it succeeds, it is a `try_send` that appended the item, and no counter moves. (Any state.) -/
theorem blocking_send_never_truncates (cfg : Cfg) (b : BSt) (x : Nat) :
    (sendOrWaitFirst cfg b x).1.st.mTruncated = b.st.mTruncated ∧
    (sendOrWaitFirst cfg b x).1.st.truncations = b.st.truncations ∧
    ((sendOrWaitFirst cfg b x).2 = .ok →
      (sendOrWaitFirst cfg b x).1.st = push b.st x ∧ (sendOrWaitFirst cfg b x).1.mBlocked = b.mBlocked) ∧
    ((sendOrWaitFirst cfg b x).2 ≠ .ok →
      (sendOrWaitFirst cfg b x).1.st = b.st ∧ (sendOrWaitFirst cfg b x).1.mBlocked = b.mBlocked + 1 ∧
      ((sendOrWaitFirst cfg b x).2 = .full x ∨ (sendOrWaitFirst cfg b x).2 = .closed)) := by
  rw [sendOrWaitFirst_eq]
  rcases try_send_hands_back cfg b.st x with ⟨_, _, h⟩ | ⟨_, _, h⟩ | ⟨_, h⟩ <;> simp [h]

/-- **The waiter gets the REMAINING time on every round** (lib.rs:246 `timeout.saturating_sub(elapsed)`): whatever
    the clock readings and however often the woken sender finds the queue full again, every wait `send_or_wait`
    asks its runtime-specific waiter for (condvar in `sync::blocking_send`, oneshot + `tokio::time::timeout` in
    `tokio::send`) is asked at a reading `e < timeout` for exactly `timeout - e` — never for the full timeout again. -/
theorem send_or_wait_asks_remaining (timeout : Nat) (first : TryRes) (obs : List (Nat × TryRes)) (p : Nat × Nat)
    (h : p ∈ sendOrWaitAsked timeout first obs) : p.1 < timeout ∧ p.1 + p.2 = timeout := by
  have one : ∀ el, ¬ el ≥ timeout → el < timeout ∧ el + (timeout - el) = timeout := fun el h => by omega
  revert h
  fun_induction sendOrWaitAsked timeout first obs
  case case4 el _ _ hge => exact fun h => List.mem_singleton.mp h ▸ one el hge   -- closed, before the timeout: one wait
  case case6 el nx _ _ hge ih =>   -- full, before the timeout: a wait, then round again unless the `try_send` succeeds
    intro h
    rcases List.mem_cons.mp h with rfl | h
    · exact one el hge
    · cases nx <;> first | cases h | exact ih _ h
  all_goals exact fun h => nomatch h

/-- **Hand-back when the timeout expires — total wait bound.** If every wait returns within the time it was asked
    for plus a slack `δ` (the runtime assumption about the condvar / the tokio timer), then every clock reading the
    loop takes — in particular the one at which the call returns the item — is at most `timeout + δ`: the waits of
    all rounds together never exceed the caller's timeout, however often the sender is woken part-way and loses the
    race for the freed slot. (A waiter that is granted the full `timeout` on every round allows `2·timeout`; stream
    `batcher_blocking_c09`, RX = refill, has the timing cases for the blocking and the async entry points.)
    The runtime assumption itself is sampled, not proved. -/
theorem send_or_wait_total_wait_bound (δ timeout : Nat) (first : TryRes) (obs : List (Nat × TryRes)) (t : Nat)
    (hh : sendOrWaitHonest δ timeout δ first obs) (ht : sendOrWaitLastReading timeout first obs = some t) :
    t ≤ timeout + δ :=
  sendOrWait_within_budget δ timeout obs δ first t (by omega) hh ht

open EmitModel.OtlpE2E in
/-- Carry-through to the emitter-specific channels (stream `c09_otlp`): the count-level step is exactly what
    `Sender::send` does to `Channel::len` and the truncation counter. -/
theorem sendCount_refines_send (cfg : Cfg) (s : St) (x : Nat) (ho : s.isOpen = true) :
    ((send cfg s x).pending.length, (send cfg s x).mTruncated) = sendCount cfg.cap (s.pending.length, s.mTruncated) := by
  rw [send_eq]
  unfold sendCount
  split <;> simp [ho]

open EmitModel.OtlpE2E in
/-- However many events are emitted while the worker is stalled, the channel never reports more than its
    capacity. -/
theorem sendN_bound (cap n : Nat) (st : Nat × Nat) (hc : 1 ≤ cap) (h : st.1 ≤ cap) : (sendN cap n st).1 ≤ cap := by
  induction n generalizing st with
  | zero => simpa [sendN]
  | succ n ih =>
    simp only [sendN]
    apply ih
    unfold sendCount
    split <;> simp <;> omega

example : ∃ s, Reachable (Cfg.real 2) s ∧ s.pending = [3] ∧ s.mTruncated = 1 ∧ s.truncations = [[1, 2]] :=
  ⟨_, ⟨[.send 1, .send 2, .send 3], rfl⟩, by decide⟩

example : (trySend (Cfg.real 1) (send (Cfg.real 1) init 7) 8).2 = .full 8 := by decide

/-- DESIGN §8 F4, outside the statement ("while the receiver exists"): on a channel closed by a receiver teardown
    `try_send` reports the closure without the item, so the waiting variants end in an error that does not carry
    it. The code is modelled as it is; stream `batcher_blocking_c09` observes `err(noitem)` on both sides. -/
example : (trySend (Cfg.real 2) ((dropReceiver init).getD init) 7).2 = .closed ∧
    sendOrWait 100 .closed [(0, .closed)] = some .errNoItem := by decide

example : sendOrWait 100 (.full 5) [(10, .full 5), (60, .ok)] = some .ok := by decide
example : sendOrWait 100 (.full 5) [(10, .full 5), (120, .ok)] = some (.handedBack 5) := by decide

/-- the demo of seeded change C09-r3m3: capacity 2, two sends, a try_send and a blocking send that find the queue
    full, then a plain send that truncates — one truncation, one blocked send, and that is what the counters say -/
example : ∃ b, run (bstep (Cfg.real 2)) binit
      [.base (.send 1), .base (.send 2), .base (.trySend 3), .sendOrWaitFirst 4, .base (.send 5)] = some b ∧
    b.st.pending = [5] ∧ b.st.mTruncated = 1 ∧ b.mBlocked = 1 ∧
    countAlong (Cfg.real 2) (truncatingSend (Cfg.real 2)) binit
      [.base (.send 1), .base (.send 2), .base (.trySend 3), .sendOrWaitFirst 4, .base (.send 5)] = 1 :=
  ⟨_, rfl, by decide, by decide, by decide, by decide⟩

/-- the timing case of seeded change C09-r3m2 (T = 500): woken at 350, the slot is gone; the second wait is asked
    for the remaining 150 and the item is handed back at 500 — the hypotheses of the bound are satisfiable -/
example : sendOrWaitAsked 500 (.full 9) [(0, .full 9), (350, .full 9), (500, .full 9)] = [(0, 500), (350, 150)] ∧
    sendOrWaitHonest 0 500 0 (.full 9) [(0, .full 9), (350, .full 9), (500, .full 9)] ∧
    sendOrWaitLastReading 500 (.full 9) [(0, .full 9), (350, .full 9), (500, .full 9)] = some 500 := by
  refine ⟨by decide, ?_, by decide⟩
  simp [sendOrWaitHonest]

end EmitModel.C09
