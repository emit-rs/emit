/-
  Thm/C14All.lean — C14 for the emitter as a whole (property theorems only): the routing decision of `OtlpInner::emit`
  in front of the three signals' channels (Model/OtlpAll.lean).
-/
import EmitModel.Thm.C14
import EmitModel.Lemmas.OtlpAll

namespace EmitModel.C14
open EmitModel.Otlp

/-- **Every emitted event is accounted for, on exactly the signal the routing names.** In every execution of the
    whole OTLP emitter (events of any shape in any order, the three signals running interleaved in any way): an event
    the routing cannot place is in the discard count and in no channel; every other event was handed to the channel of
    THE signal `route` names (C14 `route_exactly_one`: there is only one) — it is in that channel's accepted history, or
    that channel was already closed because its receiver is gone; no channel ever accepts an event routed elsewhere;
    and the discard counter equals the number of emitted events no signal could take. -/
theorem emitter_accounts_for_every_event (cfg : OtlpAll.Cfg) (net0 : Signal → Net) (s : OtlpAll.St)
    (h : OtlpAll.Reachable cfg net0 s) :
    (∀ x ∈ s.emitted,
      (route cfg.logs cfg.traces cfg.metrics (cfg.shape x) = .discard ∧ x ∈ s.discarded) ∨
      ∃ g, route cfg.logs cfg.traces cfg.metrics (cfg.shape x) = .signal g ∧
        (x ∈ (s.get g).ch.accepted ∨ x ∈ s.closedDrop)) ∧
    (∀ g, ∀ x ∈ (s.get g).ch.accepted, route cfg.logs cfg.traces cfg.metrics (cfg.shape x) = .signal g) ∧
    s.discarded.length = (s.emitted.filter fun x =>
      decide (route cfg.logs cfg.traces cfg.metrics (cfg.shape x) = .discard)).length :=
  let a := OtlpAll.acct_reachable cfg net0 s h
  ⟨fun x hx => by
    cases hr : route cfg.logs cfg.traces cfg.metrics (cfg.shape x) with
    | discard => exact .inl ⟨rfl, by rw [a.disc]; simp [hx, hr]⟩
    | signal g => exact .inr ⟨g, rfl, a.sig x hx g hr⟩,
   fun g => (OtlpAll.reachable_sig cfg net0 s h g).2, congrArg List.length a.disc⟩

private def spanShape : Shape := { kind := .span, extent := .range, hasName := false, value := .missing, agg := .missing }
private def logShape : Shape := { kind := .none, extent := .point, hasName := false, value := .missing, agg := .missing }
private def acfg : OtlpAll.Cfg :=
  { logs := false, traces := true, metrics := false,
    pipe := fun _ => { ch := Batcher.Cfg.real 10, tr := .http, limit := 100, size := fun _ => 1 },
    shape := fun x => if x = 1 then spanShape else logShape }
private def anet : Signal → Net := fun _ => { dead := false, script := [], slot := false, conns := 0, log := [] }

/-- non-vacuity: traces only; a span (event 1) is accepted by the traces channel, two log-shaped events are discarded and
    counted -/
example : ((Sched.run (OtlpAll.step acfg) (OtlpAll.init anet) [.emit 0, .emit 1, .emit 2]).map fun s =>
    (s.emitted, s.discarded, s.closedDrop, s.traces.ch.accepted, s.logs.ch.accepted)) =
    some ([0, 1, 2], [0, 2], [], [1], []) := by rfl

end EmitModel.C14
