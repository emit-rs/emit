/-
  Thm/C08.lean — property C08: the background worker always makes progress; failures and panics never wedge it.
  Invariants and ranking functions live in Lemmas/BatcherBound.lean and Lemmas/BatcherLive.lean; the three bounded
  hand-over theorems (flush callbacks, `when_empty` callbacks, items) are proved here, as instances of `handed_within`.

  Safety theorems quantify over every configuration and every state reachable by ANY label list (every
  interleaving, every outcome sequence incl. both kinds of panic, sender drop at any point). Liveness theorems are
  BOUNDED and need no fairness assumption: "every execution from `s` that contains more than K receiver steps
  ends in the goal", where receiver steps are the LOOP labels `rxTake, rxBegin, rxOutcome _, rxRetryWaited,
  rxIdleWaited` (an outcome / a timer expiry is a step of what the receiver awaits); the individual callback
  invocations `rxFireTake` / `rxFireFlush` are separate labels that are NOT counted (so K does not depend on how
  many callbacks are registered), and any number of sender steps may be interleaved anywhere — also between two
  callbacks and between the last callback of an empty hand-off and the exit check. A panicking callback is the same
  label as any other callback: they are drained under `catch_unwind` (lib.rs:738-752), so the panic has no effect on
  the state.

  OBLIGATIONS (audited by `check` with `#print axioms`):
    attempts_bounded, backoff_monotone_bounded, delay_next_monotone_bounded, callbacks_fire_once,
    callbacks_fire_once_nodup, callbacks_fire_bounded, empty_callbacks_fire_bounded, later_batches_processed,
    drain_on_close, wait_timeout_within_budget, send_or_wait_within_budget, blocking_entry_total_partial,
    otlp_flush_within_budget, otlp_flush_true_iff, file_callbacks_fire_bounded, otlp_callbacks_fire_bounded
    (the last two in Thm/C08Pipes.lean)
-/
import EmitModel.Lemmas.BatcherLive
import EmitModel.Lemmas.BatcherExt
import EmitModel.Model.OtlpE2E

namespace EmitModel.C08
open EmitModel.Batcher EmitModel.Sched

/-- **Bounded attempts.** `callsPerBatch` has one entry per batch (= per first attempt) counting the `on_batch`
    calls made for it; every entry is at most `1 + retryMax` (= 11 with the constants of `bounded`), the entries
    add up to all calls, and while a batch is being processed the retry counter is within budget (it is reset
    per batch, lib.rs:406-408). -/
theorem attempts_bounded (cfg : Cfg) (s : St) (h : Reachable cfg s) :
    (∀ n ∈ s.callsPerBatch, n ≤ 1 + cfg.retryMax) ∧
    s.callsPerBatch.length = s.firstAttempts.length ∧
    s.callsPerBatch.sum = s.calls.length ∧
    (∀ o c w, s.rx = .processing o c w → s.retryCur ≤ cfg.retryMax) :=
  let i := invBound_reachable cfg s h
  ⟨i.perBatch, i.lenEq, i.sumEq, fun o c w e => (i.proc o c w e).1⟩

/-- `Delay::next` (lib.rs:595-597) never exceeds its maximum and never goes down (from a value within bounds). -/
theorem delay_next_monotone_bounded (cur step cap : Nat) :
    delayNext cur step cap ≤ cap ∧ (cur ≤ cap → cur ≤ delayNext cur step cap) :=
  ⟨delayNext_le cur step cap, delayNext_ge cur step cap⟩

/-- **Back-off.** The retry waits requested for the current batch are non-decreasing and at most the configured
    maximum (10 s); every wait ever requested (retry or idle) is bounded by the larger of the two maxima. -/
theorem backoff_monotone_bounded (cfg : Cfg) (s : St) (h : Reachable cfg s) :
    s.batchWaits.Pairwise (· ≤ ·) ∧ (∀ d ∈ s.batchWaits, d ≤ cfg.retryCap) ∧
    (∀ d ∈ s.waits, d ≤ max cfg.retryCap cfg.idleCap) :=
  let i := invBound_reachable cfg s h
  ⟨i.bwSorted, fun d hd => Nat.le_trans (i.bwLe d hd) i.rdelay, i.waitsLe⟩

/-- **Exactly once (conservation).** Every registration of a flush callback is in exactly one place: ran,
    attached to the pending batch, travelling with the batch the receiver holds, or dropped unrun by a receiver
    teardown; likewise for `when_empty` callbacks (which are never dropped). So no callback runs more often
    than it was registered — whatever the outcomes, panics included. -/
theorem callbacks_fire_once (cfg : Cfg) (s : St) (h : Reachable cfg s) (w : Nat) :
    s.registered.count w = s.fired.count w + s.pendFlushW.count w + s.rx.ws.count w + s.dropped.count w ∧
    s.registeredTake.count w = s.firedTake.count w + s.pendTakeW.count w + s.rx.takeWs.count w :=
  let i := invCount_reachable cfg s h
  ⟨i.flush w, i.take w⟩

/-- With distinct names for distinct registrations, `fired` has no duplicates. -/
theorem callbacks_fire_once_nodup (cfg : Cfg) (s : St) (h : Reachable cfg s) :
    (s.registered.Nodup → s.fired.Nodup) ∧ (s.registeredTake.Nodup → s.firedTake.Nodup) := by
  have i := invCount_reachable cfg s h
  constructor
  · intro hn
    rw [List.nodup_iff_count] at hn ⊢
    intro w; have := i.flush w; have := hn w; omega
  · intro hn
    rw [List.nodup_iff_count] at hn ⊢
    intro w; have := i.take w; have := hn w; omega

/-- **Every registered flush callback runs within a bounded number of receiver steps.** From any reachable
    state in which `w` is waiting (attached to the pending batch or to the batch the receiver holds), every
    execution containing more than `K = 4·retryMax + 5` receiver steps — any sender steps interleaved, any
    outcomes — has run it, unless the receiver was torn down. -/
theorem callbacks_fire_bounded (cfg : Cfg) (s : St) (h : Reachable cfg s) (w : Nat)
    (hw : w ∈ s.pendFlushW ∨ w ∈ s.rx.ws) (ls : List Label) (s' : St)
    (hrun : run (step cfg) s ls = some s') (hk : 4 * cfg.retryMax + 5 < countSel Label.isRx ls) :
    w ∈ s'.fired ∨ s'.tornDown = true := by
  -- a flush callback travelling with the batch in hand runs when the receiver is back at the loop head: `hr := phase`
  refine handed_within cfg (Pend := fun s => w ∈ s.pendFlushW) (Held := fun s => w ∈ s.rx.ws)
    (Goal := fun s => w ∈ s.fired ∨ s.tornDown = true) (hr := phase cfg) (H := 2 * cfg.retryMax + 2)
    (phase_le cfg) ?_ ?_ ?_ (fun _ h => .inr h) (fun _ _ h _ hp => by rw [h] at hp; cases hp)
    s (invBound_reachable cfg s h) hw ls s' hrun (by omega)   -- 2·retryMax + 3 + H with H = 2·retryMax + 2
  · intro s l s' hs hp
    cases Step.of_step hs with
    | take => exact .inr (.inr hp)
    | whenFlushedLater => exact .inr (.inl (List.mem_append_left _ hp))
    | _ => exact .inr (.inl hp)
  · intro s l s' ib hd hs hh
    cases Step.of_step hs with
    | fireFlushEmpty s w' | fireFlush s w' =>
      rcases List.mem_cons.mp hh with rfl | hh
      · exact .inl (.inl (List.mem_append_right _ (.head _)))
      · exact .inr ⟨by simpa using hh, by simp [phase, Label.isRx]⟩
    | begin | retry | retryWaited => exact .inr ⟨hh, phase_step_rx cfg _ _ _ ib rfl (by simp) hs⟩
    | conclude => exact .inr ⟨by simpa using hh, phase_step_rx cfg _ _ _ ib rfl (by simp) hs⟩
    | take | «return» | idleWait | idleWaited => cases hh
    | dropReceiver => exact absurd rfl hd
    | _ => exact .inr ⟨hh, Nat.le_refl _⟩
  · exact fun s l s' hs hg => hg.imp (fun h => fired_mono_step cfg s l s' w h hs) fun h => tornDown_mono_step cfg s l s' h hs

/-- The same for `when_empty` callbacks, with `K = 2·retryMax + 4`. -/
theorem empty_callbacks_fire_bounded (cfg : Cfg) (s : St) (h : Reachable cfg s) (w : Nat)
    (hw : w ∈ s.pendTakeW ∨ w ∈ s.rx.takeWs) (ls : List Label) (s' : St)
    (hrun : run (step cfg) s ls = some s') (hk : 2 * cfg.retryMax + 4 < countSel Label.isRx ls) :
    w ∈ s'.firedTake ∨ s'.tornDown = true := by
  refine handed_within cfg (Pend := fun s => w ∈ s.pendTakeW) (Held := fun s => w ∈ s.rx.takeWs)
    (Goal := fun s => w ∈ s.firedTake ∨ s.tornDown = true) (hr := fun _ => 0) (H := 0)
    (fun _ _ => Nat.le_refl _) ?_ ?_ ?_ (fun _ h => .inr h) (fun _ _ _ h hp => by rw [h] at hp; cases hp)
    s (invBound_reachable cfg s h) hw ls s' hrun (by omega)   -- H = 0 gives 2·retryMax + 3; the statement asks one more
  · intro s l s' hs hp
    cases Step.of_step hs with
    | take => exact .inr (.inr hp)
    | whenEmptyLater => exact .inr (.inl (List.mem_append_left _ hp))
    | _ => exact .inr (.inl hp)
  · -- held only between the hand-off and `notify_on_take`, where no loop step is enabled
    intro s l s' _ hd hs hh
    cases Step.of_step hs with
    | fireTake s b w' =>
      rcases List.mem_cons.mp hh with rfl | hh
      · exact .inl (.inl (List.mem_append_right _ (.head _)))
      · exact .inr ⟨hh, Nat.le_refl _⟩
    | take | fireFlushEmpty | fireFlush | begin | «return» | idleWait | retry | conclude | retryWaited | idleWaited =>
      cases hh
    | dropReceiver => exact absurd rfl hd
    | _ => exact .inr ⟨hh, Nat.le_refl _⟩
  · exact fun s l s' hs hg =>
      hg.imp (fun h => firedTake_mono_step cfg s l s' w h hs) fun h => tornDown_mono_step cfg s l s' h hs

/-- **Later batches are still processed.** Whatever happens to the batch in hand (success, failure, retries,
    panic in the closure or in the future), every item pending now is handed to the processor as part of a
    first attempt — or cleared by a counted truncation — within `2·retryMax + 4` receiver steps. -/
theorem later_batches_processed (cfg : Cfg) (s : St) (h : Reachable cfg s) (x : Nat) (hx : x ∈ s.pending)
    (ls : List Label) (s' : St) (hrun : run (step cfg) s ls = some s')
    (hk : 2 * cfg.retryMax + 4 < countSel Label.isRx ls) :
    x ∈ s'.firstAttempts.flatten ∨ x ∈ s'.truncations.flatten ∨ s'.tornDown = true := by
  refine handed_within cfg (Pend := fun s => x ∈ s.pending) (Held := fun s => x ∈ s.rx.takenBatch)
    (Goal := fun s => x ∈ s.firstAttempts.flatten ∨ x ∈ s.truncations.flatten ∨ s.tornDown = true)
    (hr := fun _ => 0) (H := 0) (fun _ _ => Nat.le_refl _) ?_ ?_ ?_ (fun _ h => .inr (.inr h))
    (fun _ h _ _ hp => by rw [h] at hp; cases hp) s (invBound_reachable cfg s h) (.inl hx) ls s' hrun (by omega)
  -- (as for the `when_empty` callbacks: `handed_within` needs only 2·retryMax + 3)
  · intro s l s' hs hp
    cases Step.of_step hs with
    | sendTrunc | sendTruncClosed => exact .inl (.inr (.inl (by simp [hp])))
    | send | trySend => exact .inr (.inl (List.mem_append_left _ hp))
    | take => exact .inr (.inr hp)
    | _ => exact .inr (.inl hp)
  · intro s l s' _ hd hs hh
    cases Step.of_step hs with
    | begin => exact .inl (.inl (List.mem_flatten.mpr ⟨_, List.mem_append_right _ (.head _), hh⟩))
    | take | fireFlush | «return» | idleWait | retry | conclude | retryWaited | idleWaited => cases hh
    | dropReceiver => exact absurd rfl hd
    | _ => exact .inr ⟨hh, Nat.le_refl _⟩
  · intro s l s' hs hg
    cases Step.of_step hs with
    | sendTrunc | sendTruncClosed => exact hg.imp_right (Or.imp_left fun h => by simp [h])
    | begin => exact hg.imp_left fun h => by simp [h]
    | dropReceiver => exact .inr (.inr rfl)
    | _ => exact hg

/-- **Drain on close.** Once the last sender is dropped, within `4·retryMax + 7` receiver steps the receiver has
    returned; and unless it was torn down instead, nothing is left queued, every kept item was handed to the
    processor, and every registered callback has run exactly as often as it was registered. -/
theorem drain_on_close (cfg : Cfg) (s : St) (h : Reachable cfg s) (ha : s.senderAlive = false)
    (ls : List Label) (s' : St) (hrun : run (step cfg) s ls = some s')
    (hk : 4 * cfg.retryMax + 7 < countSel Label.isRx ls) :
    s'.rx = .done ∧
    (s'.tornDown = false →
      s'.pending = [] ∧ s'.acceptedKept = s'.firstAttempts.flatten ∧
      (∀ w, s'.fired.count w = s'.registered.count w) ∧
      (∀ w, s'.firedTake.count w = s'.registeredTake.count w)) := by
  have hr' : Reachable cfg s' := Sched.Reachable.run h hrun
  have hdone := drains_within cfg s (invBound_reachable cfg s h) ha (closed_of_sender_gone cfg s h ha) ls s' hrun hk
  refine ⟨hdone, ?_⟩
  intro ht
  obtain ⟨_, hp, hf, htk⟩ := (invDrain_reachable cfg s' hr').returned hdone ht
  have hc := invCount_reachable cfg s' hr'
  have hdr : s'.dropped = [] := Decidable.byContradiction fun hd => nomatch ht.symm.trans (dropped_reachable cfg s' hr' hd)
  have hpart := (invPart_reachable cfg s' hr').part
  refine ⟨hp, ?_, ?_, ?_⟩
  · rw [hpart, hp, hdone]; simp
  · intro w; have := hc.flush w; simp [hf, hdr, hdone] at this; omega
  · intro w; have := hc.take w; simp [htk, hdone] at this; omega

/-- **`Trigger::wait_timeout` returns within its budget** (remaining-time accounting, sync.rs:178-191): if every
    `Condvar::wait_timeout` call returns within the time it was asked for plus a slack `δ`, the total time spent
    waiting is at most `timeout + δ` — however many spurious or early wake-ups occur. -/
theorem wait_timeout_within_budget (δ timeout : Nat) (flag0 : Bool) (wakes : List CvWake)
    (h : waitTimeoutHonest δ timeout flag0 wakes) : waitTimeoutSpent timeout flag0 wakes ≤ timeout + δ := by
  fun_induction waitTimeoutSpent timeout flag0 wakes
  case case4 hf h0 w rest hto hle ih =>
    -- woken early: the next wait is asked for what remains
    unfold waitTimeoutHonest at h
    simp only [hf, h0, hto, hle, if_true, if_false] at h
    have := ih h.2
    omega
  case case5 hf h0 w rest hto hle | case6 hf h0 w rest hto =>
    -- timed out, or over time: this wait was the last, and it was honest
    unfold waitTimeoutHonest at h
    simp only [hf, h0, if_false] at h
    exact h.1
  all_goals exact Nat.zero_le _

/-- **`send_or_wait` returns within its budget** (remaining-time accounting of the loop, lib.rs:239-256): every
    wait round is asked for `timeout - elapsed`, so if every wait returns within the time it was asked for plus a
    slack `δ`, every clock reading the loop takes — in particular the one at which the call returns — is at most
    `timeout + δ`, however often the woken sender loses the race for the freed slot. (Granting each round the full
    `timeout` instead would allow `2·timeout`; stream `batcher_blocking_c08` has the timing cases.) -/
theorem send_or_wait_within_budget (δ timeout : Nat) (obs : List (Nat × TryRes)) :
    ∀ (bound : Nat) (err : TryRes) (t : Nat), bound ≤ timeout + δ → sendOrWaitHonest δ timeout bound err obs →
      sendOrWaitLastReading timeout err obs = some t → t ≤ timeout + δ :=
  sendOrWait_within_budget δ timeout obs

/-- the timing case of stream `batcher_blocking_c08`: woken at 0.7·T, the slot is gone, the second wait is asked
    for the remaining 0.3·T — the item is handed back at T -/
example : sendOrWait 500 (.full 9) [(0, .full 9), (350, .full 9), (500, .full 9)] = some (.handedBack 9) ∧
    sendOrWaitLastReading 500 (.full 9) [(0, .full 9), (350, .full 9), (500, .full 9)] = some 500 ∧
    sendOrWaitHonest 0 500 0 (.full 9) [(0, .full 9), (350, .full 9), (500, .full 9)] := by
  refine ⟨by decide, by decide, ?_⟩
  simp [sendOrWaitHonest]

/-- **The blocking entry points are total in every calling context** (decision table, after fix D3): whichever
    module's `blocking_flush` / `blocking_send` is called from a plain thread, a worker of a tokio multi-thread
    runtime, inside its `block_on`, or inside a tokio current-thread runtime — built with or without time / io
    drivers — the way it waits is legal there according to tokio's
    documented rules (`pathPanics`) — it never takes `Handle::block_on`, and takes `block_in_place` only on the
    multi-thread flavour. Before the fix `tokio::blocking_*` took `Handle::block_on` in both runtime contexts and
    panicked ("Cannot start a runtime from within a runtime"); stream `batcher_blocking` reproduces that on the
    unfixed tree. That the condvar wait itself then returns within the timeout is `wait_timeout_within_budget`
    (under the runtime assumption about `Condvar::wait_timeout`) — sampled, *partial*. -/
theorem blocking_entry_total_partial (api : Api) (ctx : Ctx) :
    pathPanics (blockingPath api ctx) ctx = false ∧ blockingPath api ctx ≠ .handleBlockOn ∧
    blockingPath api ctx ≠ .blockInPlaceAsync := by
  cases api <;> cases ctx <;> decide

/-- … and they do not depend on the drivers of the runtime they are called from: running the ASYNC variants under
    `block_in_place` instead (timers!) would panic on a multi-thread runtime built without a time driver. -/
example : pathPanics .blockInPlaceAsync .tokioMultiThreadNoDrivers = true ∧
    pathPanics .blockInPlaceAsync .tokioMultiThreadNoDriversBlockOn = true ∧
    pathPanics .blockInPlaceAsync .tokioMultiThread = false := by decide

/-- the pre-fix table would have panicked: `Handle::block_on` inside either runtime flavour -/
example : pathPanics .handleBlockOn .tokioMultiThread = true ∧ pathPanics .handleBlockOn .tokioCurrentThread = true := by
  decide

open EmitModel.OtlpE2E in
/-- **`Otlp::blocking_flush(T)` returns within `T`** however many signals are configured and whatever each does.
    `flushSeq` is the code's accounting — the signals share the one budget, each is given what is left of it — and
    the bound is read off that definition: the call returns no later than `T` after it started, not `T` per signal. -/
theorem otlp_flush_within_budget (T : Nat) : ∀ (cs : List (Option Nat)) (e : Nat), e ≤ T → (flushSeq T cs e).2 ≤ T
  | [], e, h => h
  | some t :: rest, e, h => by
    simp only [flushSeq]
    split
    · rename_i ht; exact otlp_flush_within_budget T rest (max e t) (Nat.max_le.2 ⟨h, ht⟩)
    · exact Nat.le_refl T
  | none :: _, _, _ => Nat.le_refl T

open EmitModel.OtlpE2E in
/-- … and it returns `true` exactly when every configured signal's channel became flushed within the budget; then
    it returned at the latest of those instants (or at once). -/
theorem otlp_flush_true_iff (T : Nat) : ∀ (cs : List (Option Nat)) (e : Nat),
    ((flushSeq T cs e).1 = true ↔ ∀ c ∈ cs, ∃ t, c = some t ∧ t ≤ T) ∧
    ((flushSeq T cs e).1 = true → (flushSeq T cs e).2 = cs.foldl (fun m c => max m (c.getD 0)) e)
  | [], e => by simp [flushSeq]
  | some t :: rest, e => by
    have ih := otlp_flush_true_iff T rest (max e t)
    by_cases ht : t ≤ T
    · simp only [flushSeq, ht, if_true, List.foldl, Option.getD]
      constructor
      · rw [ih.1]; simp [ht]
      · exact ih.2
    · simp [flushSeq, ht]
  | none :: rest, e => by simp [flushSeq]

open EmitModel.OtlpE2E in
example : flushSeq 1000 [some 800, some 0, none] 0 = (false, 1000) ∧ flushSeq 1000 [some 800, some 0, some 300] 0 = (true, 800) := by
  decide

def demoCfg : Cfg := { cap := 4, retryMax := 2, retryStep := 700, retryCap := 1000, idleStep := 1, idleCap := 500 }

/-- A batch retried until the budget (2) is exhausted: 3 calls, two non-decreasing waits, then given up;
    the flush callback registered meanwhile runs only then; the next batch is processed. -/
def demo : List Label :=
  [.send 1, .rxTake, .rxBegin, .whenFlushed 7, .send 2,
   .rxOutcome (.failRetry [1]), .rxRetryWaited, .rxOutcome (.failRetry [1]), .rxRetryWaited,
   .rxOutcome (.failRetry [1]), .rxTake, .rxBegin]

example : ∃ s, Reachable demoCfg s ∧ s.callsPerBatch = [3, 1] ∧ s.waits = [700, 1000] ∧ s.fired = [] ∧
    s.rx.ws = [7] ∧ s.calls = [[1], [1], [1], [2]] ∧ s.finalised = [1] :=
  ⟨_, ⟨demo, rfl⟩, by decide⟩

example : ∃ s, Reachable demoCfg s ∧ s.senderAlive = false ∧ s.rx = .done ∧ s.tornDown = false ∧
    s.fired = [7] ∧ s.firstAttempts = [[1], [2]] :=
  ⟨_, ⟨demo ++ [.dropSender, .rxOutcome .panicSync, .rxFireFlush, .rxTake, .rxBegin], rfl⟩, by decide⟩

def liveCfg : Cfg := { cap := 4, retryMax := 0, retryStep := 700, retryCap := 1000, idleStep := 1, idleCap := 500 }

/-- The hypotheses of the bounded-liveness theorems are satisfiable: with `retryMax = 0` the bound for flush
    callbacks is 5; from the reachable state in which watcher 7 is attached to the pending batch, this execution
    contains 6 receiver steps (and a sender step in between) — and indeed ends with the callback run. -/
example : ∃ s, Reachable liveCfg s ∧ 7 ∈ s.pendFlushW ∧
    ∃ ls s', run (step liveCfg) s ls = some s' ∧ 4 * liveCfg.retryMax + 5 < countSel Label.isRx ls ∧ 7 ∈ s'.fired :=
  ⟨_, ⟨[.send 1, .whenFlushed 7], rfl⟩, by decide,
   [.rxTake, .rxBegin, .send 2, .rxOutcome (.failRetry [1]), .rxFireFlush, .rxTake, .rxBegin, .rxOutcome .panicAsync], _, rfl,
   by decide, by decide⟩

/-- … and the conclusion of `drain_on_close`: sender dropped with one item queued, the receiver is `done` after 5
    receiver steps, nothing is left and no further receiver label is enabled. (The theorem's `hk` asks for more
    than `4·0 + 7` receiver steps; no execution from this state has that many.) -/
example : ∃ s, Reachable liveCfg s ∧ s.senderAlive = false ∧ s.rx ≠ .done ∧
    ∃ ls s', run (step liveCfg) s ls = some s' ∧ s'.rx = .done ∧ s'.tornDown = false ∧
      s'.firstAttempts = [[1]] ∧ step liveCfg s' .rxTake = none :=
  ⟨_, ⟨[.send 1, .dropSender], rfl⟩, by decide, by decide,
   [.rxTake, .rxBegin, .rxOutcome .ok, .rxTake, .rxBegin], _, rfl, by decide, by decide, by decide, by decide⟩

end EmitModel.C08
