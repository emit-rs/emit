/-
  Thm/C04.lean — property C04: nested spans always form one consistent trace tree.
  `runT_eq_spec` (the tree executed on the C03 machine = a pure function of the ambient map, machine restored) and
  `spec_eq_ref` (= the map-free trace tree `ref` for clean trees) are proved in Lemmas/Span.lean. A span is a C03
  frame: the file rests on Thm/C03.lean as well.

  Reading guide. `runT t c tree s n` / `runL` is what the driver executes: the span tree run on thread `t`,
  context `c` of the C03 machine `s` (`step` = the thread-local swap machine the C03 theorems are about).
  `ref tr sp pa tree` is the trace tree with no maps: `tr` the trace id in force, `sp` the id of the innermost
  ENABLED span (or the incoming span id), `pa` that span's parent. `Clean` = no event overrides an id key with
  its own property and no span's user ctxt props use `id` or an id key (the macro call sites cannot).

  OBLIGATIONS (audited by `check` with `#print axioms`):
    sequential_view, revert_on_end, revert_on_panic, revert_on_end_is_exit_restores, thread_independent,
    carried_frame_is_transparent, trace_tree, driver_trace_tree, completion_carries_span_ids, one_trace,
    one_traceL, one_trace_root, parent_is_enclosing, ids_resolveL, span_idsL, ids_distinct, rng_zero_absent,
    rng_holders_transparent, rng_holders_transparentL, hold_panicsL, rng_none_draws_nothingL,
    tp_frame_shows_child_ids, tp_enter_exit_symmetric, EmitModel.Span.runT_eq_spec, EmitModel.Span.runL_eq_spec,
    EmitModel.Span.spec_eq_ref, EmitModel.Span.specL_eq_refL, EmitModel.Span.current_push,
    EmitModel.Span.evsL_wellNested, EmitModel.Span.exec_evsL
-/
import EmitModel.Lemmas.Span
import EmitModel.Thm.C03
import EmitModel.Model.Traceparent
namespace EmitModel.C04
open EmitModel.Ctxt EmitModel.Span

/-- **sequential_view.** Executing a tree on the thread-local machine — frames pushed, entered and exited, bodies
    carried to other threads inside `Frame::current` — emits exactly what the pure function `spec` of the ambient
    map says, and leaves every thread's view of every context as it was. -/
theorem sequential_view (tree : Tree) (t c : Nat) (s : St IdVal) (n : Nat) :
    (runT t c tree s n).1 = spec ((s.active t c).getD []) tree ∧
    (∀ t' c', (runT t c tree s n).2.1.active t' c' = s.active t' c') :=
  ⟨(runT_eq_spec tree t c s n).1, (runT_eq_spec tree t c s n).2.active⟩

/-- **revert_on_end.** When a span (any list of siblings) has ended, the ambient ids are what they were before
    it: `SpanCtxt::current` reads the parent's ids again. (Proved on the C03 machine: `exit` swaps back.) -/
theorem revert_on_end (ts : List Tree) (t c : Nat) (s : St IdVal) (n : Nat) (t' c' : Nat) :
    (runL t c ts s n).2.1.active t' c' = s.active t' c' ∧
    current (((runL t c ts s n).2.1.active t c).getD []) = current ((s.active t c).getD []) := by
  have h := (runL_eq_spec ts t c s n).2.active
  exact ⟨h t' c', by rw [h t c]⟩

/-- **revert_on_end is C03's exit_restores.** What `runL` does to the machine is the execution (`exec`) of a list
    of C03 events (`evsL`: every span = open, enter, body, completion read, exit; every carried body = open a
    `Frame::current`, enter/exit on the other thread) that is a WELL-NESTED, BALANCED block of the C03 discipline
    from any consistent bookkeeping `g` whose handles from `n` on are unused. So the C03 theorems apply to span
    trees verbatim: `exit_restores` gives that every thread sees what it saw before, and every frame holds its
    own view again. -/
theorem revert_on_end_is_exit_restores (ts : List Tree) (t c : Nat) (s : St IdVal) (n : Nat) (g : G IdVal)
    (hi : Inv s g) (hf : FreshFrom g n) :
    exec s (evsL t c ts s n) = (runL t c ts s n).2.1 ∧
    ∃ g', run s g (evsL t c ts s n) = some ((runL t c ts s n).2.1, g') ∧ g'.stack = g.stack ∧
      (∀ t' c', (runL t c ts s n).2.1.active t' c' = s.active t' c') ∧
      (∀ f c', g'.ctxtOf f = some c' → g'.loc f = none → ((runL t c ts s n).2.1.slot f).get = g'.view f) := by
  obtain ⟨g', hr, hst, _⟩ := evsL_wellNested ts t c s n g hi hf
  rw [exec_evsL] at hr
  obtain ⟨h1, _, _, h4⟩ := C03.exit_restores s g hi _ _ g' hr hst
  exact ⟨exec_evsL ts t c s n, g', hr, hst, h1, h4⟩

/-- **revert_on_panic.** A panic that unwinds out of span bodies (any depth, any mix of sync/async paths and
    carried frames) and is caught by an enclosing `catch_unwind` leaves no trace either: what follows the catch
    point runs in exactly the ambient the catch point itself had (`specL amb rest` — the same `amb`), every
    thread sees in every context what it saw before, and — `revert_on_end_is_exit_restores` holds for trees
    with panics too — the machine effects are still a balanced, well-nested C03 block: each unwound span did
    its completion read and its `exit` (the `EnterGuard` drop). -/
theorem revert_on_panic (body rest : List Tree) (t c : Nat) (s : St IdVal) (n : Nat) :
    (runL t c (.catch_ body :: rest) s n).1 =
      specL ((s.active t c).getD []) body ++ specL ((s.active t c).getD []) rest ∧
    (∀ t' c', (runL t c (.catch_ body :: rest) s n).2.1.active t' c' = s.active t' c') ∧
    (∀ id en rt rs user children, Span.panicsL children = true →
      ∀ t' c', (runT t c (.span id en rt rs user children) s n).2.1.active t' c' = s.active t' c') := by
  refine ⟨?_, (runL_eq_spec _ t c s n).2.active, fun id en rt rs user children _ => (runT_eq_spec _ t c s n).2.active⟩
  rw [(runL_eq_spec _ t c s n).1]
  simp [specL, spec, Tree.panics]

example : Inv (St.init IdVal true) (C03.G0 IdVal) ∧ FreshFrom (C03.G0 IdVal) 0 :=
  ⟨C03.inv_init true, fun _ _ => rfl⟩

/-- The records depend on the ambient map only — not on the thread the tree runs on, nor on the rest of the
    machine state (other threads, other contexts, frame slots, handle counter). -/
theorem thread_independent (tree : Tree) (t1 t2 c : Nat) (s1 s2 : St IdVal) (n1 n2 : Nat)
    (h : (s1.active t1 c).getD [] = (s2.active t2 c).getD []) :
    (runT t1 c tree s1 n1).1 = (runT t2 c tree s2 n2).1 := by
  rw [(runT_eq_spec tree t1 c s1 n1).1, (runT_eq_spec tree t2 c s2 n2).1, h]

/-- A body continued on another thread (or in a task polled there) inside a carried `Frame::current` emits
    what it would have emitted in place. -/
theorem carried_frame_is_transparent (t' : Nat) (children : List Tree) (t c : Nat) (s : St IdVal) (n : Nat) :
    (runT t c (.group t' children) s n).1 = (runL t c children s n).1 := by
  rw [(runT_eq_spec _ t c s n).1, (runL_eq_spec children t c s n).1]; simp [spec]

/-- **trace_tree.** For clean trees the records are the map-free trace tree of the ambient ids — however deep,
    whatever mix of enabled and rejected spans, hand-offs, rng readings (good, zero, absent). -/
theorem trace_tree (ts : List Tree) (hc : CleanL ts) (t c : Nat) (s : St IdVal) (n : Nat) :
    (runL t c ts s n).1 =
      refL (current ((s.active t c).getD [])).trace (current ((s.active t c).getD [])).span
        (current ((s.active t c).getD [])).parent ts := by
  rw [(runL_eq_spec ts t c s n).1, specL_eq_refL ts _ hc]

mutual
/-- **one_trace.** Below a trace id in force (incoming, or started by an enclosing span) every record — event,
    `SpanCtxt::current`, span completion, at any depth — carries that trace id. -/
theorem one_trace (tree : Tree) (tr sp pa : Option Nat) (τ : Nat) (h : tr = some τ) :
    ∀ r ∈ ref tr sp pa tree, r.trace = some τ := by
  cases tree with
  | event | cur => intro r hr; simp [ref] at hr; simp [hr, h]
  | span id enabled rt rs user children =>
    cases enabled with
    | false => simp only [ref]; exact one_traceL children tr sp pa τ h
    | true =>
      intro r hr
      have h' : tr.or (randTrace rt) = some τ := by simp [h]
      simp only [ref, if_true, List.mem_append, List.mem_singleton] at hr
      rcases hr with hr | hr
      · exact one_traceL children _ _ _ τ h' r hr
      · simp [hr, h']
  | group _ children | catch_ children => simp only [ref]; exact one_traceL children tr sp pa τ h
  | panic => intro r hr; simp [ref] at hr
theorem one_traceL (ts : List Tree) (tr sp pa : Option Nat) (τ : Nat) (h : tr = some τ) :
    ∀ r ∈ refL tr sp pa ts, r.trace = some τ := by
  cases ts with
  | nil => intro r hr; simp [refL] at hr
  | cons x xs =>
    intro r hr
    simp only [refL, List.mem_append] at hr
    rcases hr with hr | hr
    · exact one_trace x tr sp pa τ h r hr
    · split at hr
      · simp at hr
      · exact one_traceL xs tr sp pa τ h r hr
end

/-- a root span starts the trace: no incoming trace id, a good reading `τ` -/
theorem one_trace_root (id : Nat) (rt rs : Option Nat) (user : List (String × IdVal)) (children : List Tree)
    (sp pa : Option Nat) (τ : Nat) (h : randTrace rt = some τ) :
    ∀ r ∈ ref none sp pa (.span id true rt rs user children), r.trace = some τ := by
  intro r hr
  simp only [ref, if_true, List.mem_append, List.mem_singleton] at hr
  rcases hr with hr | hr
  · exact one_traceL children _ _ _ τ (by simp [h]) r hr
  · simp [hr, h]

mutual
/-- the u64 rng readings consumed by the ENABLED spans of a tree, in completion order -/
def sids : Tree → List (Option Nat)
  | .span _ enabled _ rs _ ch => if enabled then sidsL ch ++ [rs] else sidsL ch
  | .group _ ch => sidsL ch
  | .catch_ ch => sidsL ch
  | _ => []
def sidsL : List Tree → List (Option Nat)
  | [] => []
  | x :: xs => sids x ++ (if x.panics then [] else sidsL xs)
end

/-- a reading the random source is supposed to give: present, non-zero, 64 bit -/
def Good (r : Option Nat) : Prop := ∃ n, r = some n ∧ 0 < n ∧ n < 2 ^ 64

theorem randSpan_good (r : Option Nat) (h : Good r) : randSpan r = r := by
  obtain ⟨n, rfl, h0, h1⟩ := h
  simp [randSpan, h1, nz, Nat.ne_of_gt h0]

def isSpanRec (r : Rec) : Bool := r.kind == "s"

mutual
theorem span_ids (tree : Tree) (tr sp pa : Option Nat) (hg : ∀ r ∈ sids tree, Good r) :
    ((ref tr sp pa tree).filter isSpanRec).map (·.span) = sids tree := by
  cases tree with
  | event | cur => simp [ref, sids, isSpanRec]
  | span id enabled rt rs user children =>
    cases enabled with
    | false =>
      simp only [sids, Bool.false_eq_true, if_false] at hg ⊢
      simp only [ref, Bool.false_eq_true, if_false]; exact span_idsL children tr sp pa hg
    | true =>
      simp only [sids, if_true] at hg ⊢
      have hrs : Good rs := hg rs (by simp)
      simp only [ref, if_true, List.filter_append, List.map_append]
      rw [span_idsL children _ _ _ (fun r hr => hg r (by simp [hr]))]
      simp [isSpanRec, randSpan_good rs hrs]
      obtain ⟨n, rfl, _, _⟩ := hrs
      simp
  | group _ children | catch_ children =>
    simp only [sids] at hg ⊢
    simp only [ref]; exact span_idsL children tr sp pa hg
  | panic => simp [ref, sids]
theorem span_idsL (ts : List Tree) (tr sp pa : Option Nat) (hg : ∀ r ∈ sidsL ts, Good r) :
    ((refL tr sp pa ts).filter isSpanRec).map (·.span) = sidsL ts := by
  cases ts with
  | nil => simp [refL, sidsL]
  | cons x xs =>
    simp only [sidsL] at hg ⊢
    simp only [refL, List.filter_append, List.map_append]
    rw [span_ids x tr sp pa (fun r hr => hg r (by simp [hr]))]
    cases hp : x.panics with
    | true => simp
    | false =>
      simp only [hp, Bool.false_eq_true, if_false] at hg ⊢
      rw [span_idsL xs tr sp pa (fun r hr => hg r (by simp [hr]))]
end

/-- **ids_distinct.** If the random source gives the enabled spans good readings (present, non-zero) that do not
    repeat, the completed spans' ids are exactly those readings: non-zero and pairwise distinct. -/
theorem ids_distinct (ts : List Tree) (tr sp pa : Option Nat) (hg : ∀ r ∈ sidsL ts, Good r)
    (hd : (sidsL ts).Nodup) :
    (((refL tr sp pa ts).filter isSpanRec).map (·.span)).Nodup ∧
    ∀ r ∈ (refL tr sp pa ts).filter isSpanRec, ∃ n, r.span = some n ∧ n ≠ 0 := by
  have h := span_idsL ts tr sp pa hg
  refine ⟨h ▸ hd, fun r hr => ?_⟩
  have : r.span ∈ sidsL ts := h ▸ List.mem_map_of_mem hr
  obtain ⟨n, hn, h0, _⟩ := hg _ this
  exact ⟨n, hn, Nat.ne_of_gt h0⟩

/-- a zero or missing rng reading gives an ABSENT id, never a zero one -/
theorem rng_zero_absent (cur : SpanCtxt) (rt : Option Nat) :
    (newChild cur rt none).span = none ∧ (newChild cur rt (some 0)).span = none ∧
    (newChild ⟨none, cur.parent, cur.span⟩ none rt).trace = none ∧
    (newChild ⟨none, cur.parent, cur.span⟩ (some 0) rt).trace = none := by
  simp [newChild, randSpan, randTrace, nz]

/-- **parent_is_enclosing**, spelled out on the trace tree `ref tr sp pa` (`sp` = the id of the innermost enabled
    span around this point, or the incoming span id; `pa` = that span's parent):
    an event (and `SpanCtxt::current`) carries `sp`; a span rejected by the filter contributes nothing — its
    children see `sp`; an enabled span with a good reading `rs` reports parent `sp` (when there is one) and id
    `rs`, and its children see `rs` with parent `sp`. -/
theorem parent_is_enclosing (tr sp pa : Option Nat) :
    (∀ eid own, ref tr sp pa (.event eid own) = [⟨"e", some eid, tr, pa, sp⟩]) ∧
    (∀ cid, ref tr sp pa (.cur cid) = [⟨"c", some cid, tr, pa, sp⟩]) ∧
    (∀ id rt rs user ch, ref tr sp pa (.span id false rt rs user ch) = refL tr sp pa ch) ∧
    (∀ id rt rs user ch, Good rs →
      ref tr sp pa (.span id true rt rs user ch) =
        refL (tr.or (randTrace rt)) rs (sp.or pa) ch ++ [⟨"s", some id, tr.or (randTrace rt), sp.or pa, rs⟩]) ∧
    (∀ x, sp = some x → sp.or pa = some x) := by
  refine ⟨fun _ _ => rfl, fun _ => rfl, fun _ _ _ _ _ => by simp [ref], ?_, fun x h => by simp [h]⟩
  intro id rt rs user ch hg
  have h := randSpan_good rs hg
  obtain ⟨n, rfl, _, _⟩ := hg
  simp [ref, h]

mutual
/-- Every id a record mentions resolves inside the tree: a record's span id is the enclosing `sp` or the id of
    a completed span of this tree; a completed span's parent is the enclosing `sp` (`pa` if there is none) or
    the id of a completed span of this tree. -/
theorem ids_resolve (tree : Tree) (tr sp pa : Option Nat) (hg : ∀ r ∈ sids tree, Good r) :
    ∀ r ∈ ref tr sp pa tree, (r.span = sp ∨ r.span ∈ sids tree) ∧
      (isSpanRec r = true → r.parent = sp.or pa ∨ r.parent ∈ sids tree) := by
  cases tree with
  | event | cur => intro r hr; simp [ref] at hr; simp [hr, isSpanRec]
  | span id enabled rt rs user children =>
    cases enabled with
    | false =>
      simp only [sids, Bool.false_eq_true, if_false] at hg ⊢
      simp only [ref, Bool.false_eq_true, if_false]; exact ids_resolveL children tr sp pa hg
    | true =>
      simp only [sids, if_true] at hg ⊢
      have hrs : Good rs := hg rs (by simp)
      have h := randSpan_good rs hrs
      intro r hr
      simp only [ref, if_true, List.mem_append, List.mem_singleton] at hr
      rcases hr with hr | hr
      · obtain ⟨h1, h2⟩ := ids_resolveL children _ _ _ (fun r hr => hg r (by simp [hr])) r hr
        obtain ⟨n, rfl, _, _⟩ := hrs
        simp only [h, Option.some_or] at h1 h2
        refine ⟨Or.inr ?_, fun hs => Or.inr ?_⟩
        · rcases h1 with h1 | h1 <;> simp [h1]
        · rcases h2 hs with h2 | h2 <;> simp [h2]
      · obtain ⟨n, rfl, _, _⟩ := hrs
        simp [hr, h]
  | group _ children | catch_ children =>
    simp only [sids] at hg ⊢
    simp only [ref]; exact ids_resolveL children tr sp pa hg
  | panic => intro r hr; simp [ref] at hr
theorem ids_resolveL (ts : List Tree) (tr sp pa : Option Nat) (hg : ∀ r ∈ sidsL ts, Good r) :
    ∀ r ∈ refL tr sp pa ts, (r.span = sp ∨ r.span ∈ sidsL ts) ∧
      (isSpanRec r = true → r.parent = sp.or pa ∨ r.parent ∈ sidsL ts) := by
  cases ts with
  | nil => intro r hr; simp [refL] at hr
  | cons x xs =>
    simp only [sidsL] at hg ⊢
    intro r hr
    simp only [refL, List.mem_append] at hr
    rcases hr with hr | hr
    · obtain ⟨h1, h2⟩ := ids_resolve x tr sp pa (fun r hr => hg r (by simp [hr])) r hr
      exact ⟨h1.imp_right (fun h => List.mem_append_left _ h), fun hs => (h2 hs).imp_right (fun h => List.mem_append_left _ h)⟩
    · cases hp : x.panics with
      | true => simp [hp] at hr
      | false =>
        simp only [hp, Bool.false_eq_true, if_false] at hg hr ⊢
        obtain ⟨h1, h2⟩ := ids_resolveL xs tr sp pa (fun r hr => hg r (by simp [hr])) r hr
        exact ⟨h1.imp_right (fun h => List.mem_append_right _ h), fun hs => (h2 hs).imp_right (fun h => List.mem_append_right _ h)⟩
end

/-- **completion_carries_span_ids.** A span's own completion event is emitted INSIDE its frame — by the guard's
    drop (default completion, also while unwinding: panic completion) and by `complete_with` in the macro's
    `Ok` / `Err` arms alike (macros/src/span.rs result_completion; macro_hooks.rs `__PrivateCompleteSpanOk` /
    `__PrivateCompleteSpanErr` pass `rt.ctxt()` to `emit`), which is why the model has one completion step and no
    exit-path parameter. So the completion record carries exactly the ids `SpanCtxt::current` reads at the end
    of the body: the span's own trace id, parent and span id — the id its children and inner events refer to. -/
theorem completion_carries_span_ids (amb : List (String × IdVal)) (id k : Nat) (rt rs : Option Nat)
    (user : List (String × IdVal)) (children : List Tree) (hp : Span.panicsL children = false) :
    ∃ x : Rec, x.kind = "c" ∧ x.tag = some k ∧
      spec amb (.span id true rt rs user (children ++ [.cur k])) =
        specL (insertAll amb (spanProps id user (newChild (current amb) rt rs))) children ++
          [x, ⟨"s", pullNum (insertAll amb (spanProps id user (newChild (current amb) rt rs))) "id",
               x.trace, x.parent, x.span⟩] := by
  have happ : ∀ (a : List (String × IdVal)) (xs : List Tree), Span.panicsL xs = false →
      specL a (xs ++ [.cur k]) = specL a xs ++ [recOf "c" (some k) a] := by
    intro a xs
    induction xs with
    | nil => intro _; simp [specL, spec, Tree.panics]
    | cons y ys ih =>
      intro h
      simp only [Span.panicsL, Bool.or_eq_false_iff] at h
      simp [specL, h.1, ih h.2]
  refine ⟨recOf "c" (some k) (insertAll amb (spanProps id user (newChild (current amb) rt rs))), rfl, rfl, ?_⟩
  simp [spec, happ _ _ hp, recOf]

/-- **driver_trace_tree.** What the driver computes for a case, end to end: the incoming props are pushed by an
    outer frame, the tree runs inside it on the C03 machine; for clean trees the records are the trace tree of
    the incoming ids, whatever form those were given in. -/
theorem driver_trace_tree (incoming : List (String × IdVal)) (ts : List Tree) (hc : CleanL ts) (inl : Bool) :
    let s2 := step (step (St.init IdVal inl) (.open 0 0 0 Kind.push incoming)) (.enter 0 0 0)
    let inc := current (insertAll [] incoming)
    (runL 0 0 ts s2 1).1 = refL inc.trace inc.span inc.parent ts := by
  intro s2 inc
  have : (s2.active 0 0).getD [] = insertAll [] incoming := by
    simp [s2, step, swap, setActive, setSlot, St.init, openFrame]
  rw [trace_tree ts hc 0 0 s2 1, this]

mutual
/-- **rng_holders_transparent.** Every holder but `Option::None` — `&T`, `Some(T)`, `Box<T>`, `Arc<T>`,
    `AssertInternal<T>`, `dyn ErasedRng` — leaves the tree, hence every record of every theorem above, as it is. (In the
    model these holders read through by definition, `RngHolder.read`; that the real impls forward is what the
    correspondence checks.) -/
theorem rng_holders_transparent (h : RngHolder) (hne : h ≠ .none_) : ∀ t : Tree, t.hold h = t
  | .span id en rt rs user ch => by
    have hr : ∀ r, h.read r = r := by intro r; cases h <;> simp_all [RngHolder.read]
    simp [Tree.hold, hr, rng_holders_transparentL h hne ch]
  | .group _ ch | .catch_ ch => by simp [Tree.hold, rng_holders_transparentL h hne ch]
  | .event _ _ | .cur _ | .panic => rfl
theorem rng_holders_transparentL (h : RngHolder) (hne : h ≠ .none_) : ∀ ts : List Tree, holdL h ts = ts
  | [] => rfl
  | x :: xs => by simp [holdL, rng_holders_transparent h hne x, rng_holders_transparentL h hne xs]
end

mutual
/-- the holder does not change where a tree panics -/
theorem hold_panics (h : RngHolder) : ∀ t : Tree, (t.hold h).panics = t.panics
  | .span _ _ _ _ _ ch | .group _ ch => by simp [Tree.hold, Tree.panics, hold_panicsL h ch]
  | .catch_ _ => by simp [Tree.hold, Tree.panics]
  | .event _ _ | .cur _ | .panic => rfl
theorem hold_panicsL (h : RngHolder) : ∀ ts : List Tree, Span.panicsL (holdL h ts) = Span.panicsL ts
  | [] => rfl
  | x :: xs => by simp [holdL, Span.panicsL, hold_panics h x, hold_panicsL h xs]
end

mutual
/-- **rng_none_draws_nothing.** With `Option::None` as the rng no id is ever generated: every record of
    the whole tree carries the trace id and span id that were in force outside it (the incoming ones, or none), and as
    parent the outer parent or the outer span. -/
theorem rng_none_draws_nothing (tr sp : Option Nat) : ∀ (t : Tree) (pa : Option Nat),
    ∀ r ∈ ref tr sp pa (t.hold .none_), r.trace = tr ∧ r.span = sp ∧ (r.parent = pa ∨ r.parent = sp.or pa)
  | .event _ _, pa | .cur _, pa | .panic, pa => by simp [Tree.hold, ref]
  | .group _ ch, pa | .catch_ ch, pa => by simpa [Tree.hold, ref] using rng_none_draws_nothingL tr sp ch pa
  | .span id en rt rs user ch, pa => by
    intro r hr
    simp only [Tree.hold, RngHolder.read, ref, randTrace, randSpan, Option.bind_none, Option.or_none,
      Option.none_or] at hr
    split at hr
    · rcases List.mem_append.1 hr with h | h
      · obtain ⟨h1, h2, h3⟩ := rng_none_draws_nothingL tr sp ch (sp.or pa) r h
        refine ⟨h1, h2, Or.inr ?_⟩
        rcases h3 with h3 | h3
        · exact h3
        · rw [h3]; cases sp <;> simp
      · simp at h; subst h; simp
    · exact rng_none_draws_nothingL tr sp ch pa r hr
theorem rng_none_draws_nothingL (tr sp : Option Nat) : ∀ (ts : List Tree) (pa : Option Nat),
    ∀ r ∈ refL tr sp pa (holdL .none_ ts), r.trace = tr ∧ r.span = sp ∧ (r.parent = pa ∨ r.parent = sp.or pa)
  | [], pa => by simp [holdL, refL]
  | x :: xs, pa => by
    intro r hr
    simp only [holdL, refL] at hr
    rcases List.mem_append.1 hr with h | h
    · exact rng_none_draws_nothing tr sp x pa r h
    · split at h
      · simp at h
      · exact rng_none_draws_nothingL tr sp xs pa r h
end

open EmitModel.Traceparent in
/-- **tp_frame_shows_child_ids.** Under `TraceparentCtxt` a span's frame does not store its ids in the wrapped
    context; `open_push` turns them into the frame's traceparent slot and `with_current` synthesises them from
    the active traceparent. For a span whose ids are in the class `tpClass` — a span id that differs from the
    active one, the inherited trace id when one is active — inside a sampled, valid (or absent) active
    traceparent, what is synthesised inside the frame is exactly the child's `SpanCtxt` (trace id, parent =
    the enclosing span id, span id): the ids the plain context shows after `Frame::push(ctxt_props ++ ids)`
    (`Span.current_push`). So on the class the two contexts give the same records. -/
theorem tp_frame_shows_child_ids (c : Cfg) (st : Option Active) (hv : st.filter (fun a => a.tp.valid) = st)
    (hs : ∀ a, st = some a → a.tp.sampled = true) (tr : Option Id) (sid : Id)
    (hne : st.bind (·.tp.spanId) ≠ some sid)
    (htr : ∀ a, st = some a → tr = a.tp.traceId) (calls : Nat) :
    ∃ a, (incoming c false st tr (some sid) .all calls).1 = some a ∧
      ambientIds (some a) = ⟨tr, (ambientIds st).spanId, some sid⟩ := by
  cases st with
  | none => exact ⟨⟨⟨tr, some sid, 1⟩, none, 0⟩, by simp [incoming, applyMask], by simp [ambientIds, TP.sampled, Ids.empty]⟩
  | some a0 =>
    have hs0 := hs a0 rfl
    have ht0 := htr a0 rfl
    have hne' : (a0.tp.spanId == some sid) = false := by
      simpa using hne
    refine ⟨⟨⟨a0.tp.traceId, some sid, a0.tp.flags % 256⟩, a0.tp.spanId, a0.state⟩, ?_, ?_⟩
    · simp only [incoming, hv, Option.bind_some]
      simp [hne', applyMask]
    · have : (a0.tp.flags % 256) % 2 = a0.tp.flags % 2 := by omega
      simp only [TP.sampled] at hs0
      simp [ambientIds, TP.sampled, this, hs0, ht0]

open EmitModel.Traceparent in
/-- **tp_enter_exit_symmetric.** `TraceparentCtxt::enter` and `exit` are the same swap of the frame's slot with
    the thread's active traceparent: one after the other restores frame and thread exactly — for every frame,
    active or not, and every thread state. By induction, a span polled any number of times (`FrameFuture::poll`
    = enter, poll, exit) shows the same ids in every poll and leaves the thread as it found it after each. -/
theorem tp_enter_exit_symmetric (f : Frm) (st : Option Active) :
    ((f.swap st).1.swap (f.swap st).2) = (f, st) ∧
    (∀ n : Nat, (Nat.repeat (fun p : Frm × Option Active => (p.1.swap p.2).1.swap (p.1.swap p.2).2) n (f, st)) = (f, st)) := by
  have h1 : ∀ (f : Frm) (st : Option Active), ((f.swap st).1.swap (f.swap st).2) = (f, st) := by
    intro f st
    obtain ⟨a, sl⟩ := f
    cases a <;> simp [Frm.swap]
  refine ⟨h1 f st, fun n => ?_⟩
  induction n with
  | zero => rfl
  | succ n ih => simp only [Nat.repeat, ih]; exact h1 f st

-- the forms an incoming id may be given in (`driver_trace_tree`: "whatever form those were given in")
example : castTrace (.trace 42) = some 42 ∧ castTrace (.num 42) = some 42 ∧
    castTrace (.text "0000000000000000000000000000002a") = some 42 ∧
    castTrace (.text "0000000000000000000000000000002A") = some 42 := by decide +kernel
example : castSpan (.span 255) = some 255 ∧ castSpan (.num 255) = some 255 ∧
    castSpan (.text "00000000000000ff") = some 255 := by decide +kernel
-- not ids: the other id type, zero, wrong length, a non-hex char, a number too large for a span id
example : castTrace (.span 5) = none ∧ castSpan (.trace 5) = none ∧ castTrace (.num 0) = none ∧
    castSpan (.text "0000000000000000") = none ∧ castSpan (.text "ff") = none ∧
    castSpan (.text "000000000000000g") = none ∧ castSpan (.num (2 ^ 64)) = none := by decide +kernel
-- a 16-digit decimal number is a number, not hex text
example : castSpan (.num 1234567890123456) = some 1234567890123456 := by decide +kernel
example : (IdVal.trace 42).display = "0000000000000000000000000000002a" := by decide +kernel

/-- incoming trace as hex text and span id as u64; a disabled span between two enabled ones; a group on thread 2 -/
def demo : List Tree :=
  [.span 1 true (some 7) (some 11) []
     [.event 2 [],
      .span 3 false none (some 12) [] [.span 4 true none (some 13) [] [.cur 5], .event 6 []],
      .group 2 [.span 7 true none (some 14) [("user", .num 1)] []]]]

def demoIncoming : List (String × IdVal) :=
  [("trace_id", .text "0000000000000000000000000000002a"), ("span_id", .num 9)]

example : CleanL demo := by simp [demo, CleanL, Clean, NoKeys, idKeys]
example : (∀ r ∈ sidsL demo, Good r) ∧ (sidsL demo).Nodup := by
  simp [demo, sidsL, sids, Good, Tree.panics, Span.panicsL]
example :
    (runL 0 0 demo (step (step (St.init IdVal true) (.open 0 0 0 Kind.push demoIncoming)) (.enter 0 0 0)) 1).1 =
      [⟨"e", some 2, some 42, some 9, some 11⟩, ⟨"c", some 5, some 42, some 11, some 13⟩,
       ⟨"s", some 4, some 42, some 11, some 13⟩, ⟨"e", some 6, some 42, some 9, some 11⟩,
       ⟨"s", some 7, some 42, some 11, some 14⟩, ⟨"s", some 1, some 42, some 9, some 11⟩] := by
  decide +kernel

/-- a span whose body panics below a second span; the panic is caught; then an event and a new root span:
    both unwound spans complete with their own ids, the event carries no ids, the new span has no parent -/
def demoPanic : List Tree :=
  [.catch_ [.span 1 true (some 7) (some 11) [] [.span 2 true none (some 12) [] [.event 3 [], .panic, .event 4 []],
                                               .event 5 []]],
   .event 6 [], .span 7 true (some 8) (some 13) [] []]

example : Span.panicsL [.span 1 true (some 7) (some 11) [] [.span 2 true none (some 12) [] [.event 3 [], .panic]]] = true := by
  decide +kernel
example :
    (runL 0 0 demoPanic (St.init IdVal true) 0).1 =
      [⟨"e", some 3, some 7, some 11, some 12⟩, ⟨"s", some 2, some 7, some 11, some 12⟩,
       ⟨"s", some 1, some 7, none, some 11⟩, ⟨"e", some 6, none, none, none⟩,
       ⟨"s", some 7, some 8, none, some 13⟩] := by
  decide +kernel

end EmitModel.C04
