/-
  Thm/C12.lean — property C12: OTLP export delivers every accepted event however batches are split.

  OBLIGATIONS (audited by `check` with `#print axioms`):
    grouping_partitions, send_ok_all_acked, send_err_remaining, send_dead_nothing_sent, status_table,
    failures_of_the_property_fail, success_iff_acknowledged, conn_replaced, stale_sender_costs_one_attempt,
    signals_independent, outage_does_not_stop_others, every_event_delivered, exactly_once_without_failures,
    dead_endpoint_drops, retries_exhausted_drops, broken_bodies_exhaust_retries

  The model is sequential per signal (one receiver task per signal, one request in flight at a time —
  client.rs:247-294, 573-594); hyper/tokio/TCP and the wall-clock back-off are runtime and appear only as the
  collector script (which response each request meets) — see props/C12.json `level_note` (*partial*).
-/
import EmitModel.Lemmas.Otlp

namespace EmitModel.C12
open EmitModel.Otlp

/-- However the size limit splits a batch: the requests, oldest first, concatenate to exactly the events that
    were pushed, in order (so the multisets agree and nothing is duplicated); `len` counts them all; no request
    is empty; every request that was closed had reached the limit and no request kept growing after reaching it
    (every proper non-empty prefix of a request is below the limit) — i.e. a new request starts exactly when the
    code's rule `current_request_size_bytes >= max_request_size_bytes` says; and `cur` is the size of the
    request being filled. All limits (0 included), all sizes, all event lists. -/
theorem grouping_partitions (limit : Nat) (evs : List Ev) :
    let c := Chan.ofEvents limit evs
    c.requests.reverse.flatten = evs ∧ c.len = evs.length ∧
    (∀ r ∈ c.requests, r ≠ []) ∧
    (∀ r ∈ c.requests.tail, limit ≤ reqSize r) ∧
    (∀ r ∈ c.requests, ∀ k, 0 < k → k < r.length → reqSize (r.take k) < limit) ∧
    c.cur = reqSize (c.requests.headD []) := by
  have h := Chan.inv_ofEvents limit evs
  exact ⟨h.flat, h.total, h.nonempty, h.closed, h.open_, h.cur⟩

/-- `send = ok` ⇒ every request of the batch reached the endpoint exactly once, in order (`es`, newest first,
    are the only new log entries and correspond one-to-one to the requests), and each was acknowledged. -/
theorem send_ok_all_acked (tr : Transport) (reqs : List Request) (net net' : Net)
    (h : send tr reqs net = (.ok, net')) :
    ∃ es : List Entry, net'.log = es ++ net.log ∧
      es.reverse.map (·.ids) = reqs.map (fun r => some (reqIds r)) ∧
      (∀ e ∈ es, ackedBy tr e = true) := by
  obtain ⟨done, rem, es, fs, hsplit, hlog, _, hids, hack, hcase⟩ := send_spec tr reqs net
  simp only [h] at hlog hcase
  rcases hcase with ⟨rfl, rfl, _⟩ | ⟨_, _, _, hres, _⟩
  · exact ⟨es, by simpa using hlog, by simpa [hsplit] using hids, hack⟩
  · cases hres

/-- On failure the remainder handed back for the retry is exactly the not-yet-acknowledged requests: the batch
    splits as `done ++ rem`, each request of `done` was transmitted once and acknowledged, and nothing of
    `rem`'s tail was transmitted. The failed attempt on the first request of `rem` is the newest log entry (its
    ids, or unread when the connection was reset before the body) — or left no entry at all: the slot held a
    stale sender (the peer had dropped the connection after the head of an earlier, acknowledged response — or
    before this `send`), `send_request` failed on it and nothing reached the endpoint; the slot is then empty. -/
theorem send_err_remaining (tr : Transport) (reqs rem : List Request) (net net' : Net) (hd : net.dead = false)
    (h : send tr reqs net = (.retry rem, net')) :
    ∃ (done : List Request) (es fs : List Entry) (r : Request) (rest : List Request),
      reqs = done ++ rem ∧ rem = r :: rest ∧
      net'.log = fs ++ (es ++ net.log) ∧
      es.reverse.map (·.ids) = done.map (fun r => some (reqIds r)) ∧
      (∀ e ∈ es, ackedBy tr e = true) ∧
      ((∃ f, fs = [f] ∧ ackedBy tr f = false ∧ (f.ids = some (reqIds r) ∨ (f.ids = none ∧ f.resp = .rstB))) ∨
       (fs = [] ∧ net'.slot = false ∧
          ((es = [] ∧ net.staleNow = true) ∨ (∃ e es', es = e :: es' ∧ e.resp.leavesStale = true)))) := by
  obtain ⟨done, rem', es, fs, hsplit, hlog, _, hids, hack, hcase⟩ := send_spec tr reqs net
  simp only [h] at hlog hcase
  rcases hcase with ⟨_, _, hres, _⟩ | ⟨r, rest, rfl, hres, hlive⟩
  · cases hres
  · cases hres
    exact ⟨done, es, fs, r, rest, hsplit, rfl, hlog, hids, hack, (hlive hd).2⟩

/-- Connection refused: nothing is transmitted and the whole batch is handed back. -/
theorem send_dead_nothing_sent (tr : Transport) (r : Request) (rs : List Request) (net : Net)
    (h : net.dead = true) :
    send tr (r :: rs) net = (.retry (r :: rs), { net with slot := false }) := by
  rw [send, attempt_dead tr net r h]

/-- HTTP: success iff the status is 2xx (the body is never read). gRPC: success iff the HTTP status is 2xx, the
    response body and trailers arrive to their END — not a stall, not a stream reset, not a dropped connection —
    (inside the request timeout) and the `grpc-status` (from the trailers, or from the headers of a
    Trailers-Only response) is absent or 0. -/
theorem status_table (r : Resp) :
    (interpret .http r = true ↔ (200 ≤ r.httpStatus ∧ r.httpStatus < 300)) ∧
    (interpret .grpc r = true ↔
      (200 ≤ r.httpStatus ∧ r.httpStatus < 300 ∧ r.bodyEnds = true ∧
        (r.grpcStatus = none ∨ r.grpcStatus = some 0))) ∧
    (r.bodyEnds = true ↔ (r ≠ .stallH ∧ r ≠ .rstH ∧ r ≠ .drpH)) := by
  refine ⟨?_, ?_, ?_⟩
  · simp [interpret]
  · cases h : r.grpcStatus <;> simp [interpret, h, and_assoc]
  · cases r <;> simp [Resp.bodyEnds]

/-- Everything the property lists as a failure is a failure for the client (and so is retried): a timeout
    (no answer at all, or — gRPC — headers and then silence), a connection dropped before or after the body was
    read, a gRPC response that breaks after its `:status 200` headers and before any trailers (stream reset or
    connection dropped), a non-2xx status on either transport, a non-zero gRPC status in trailers or in a
    Trailers-Only response. -/
theorem failures_of_the_property_fail (tr : Transport) (n : Nat) :
    okResp tr .stall = false ∧ okResp .grpc .stallH = false ∧ okResp tr .rstB = false ∧ okResp tr .rstA = false ∧
    okResp .grpc .rstH = false ∧ okResp .grpc .drpH = false ∧
    ((n < 200 ∨ 300 ≤ n) → okResp tr (.status n) = false) ∧
    (n ≠ 0 → okResp .grpc (.grpc n) = false ∧ okResp .grpc (.grpcH n) = false) ∧
    okResp tr .ack = true ∧ okResp tr .ackBody = true ∧ okResp .grpc (.grpc 0) = true := by
  refine ⟨by cases tr <;> decide, by decide, by cases tr <;> decide, by cases tr <;> decide, by decide, by decide,
    ?_, ?_, by cases tr <;> decide, by cases tr <;> decide, by decide⟩
  · intro h
    cases hb : okResp tr (.status n) with
    | false => rfl
    | true =>
      have hi : interpret tr (.status n) = true := by
        simp only [okResp, Bool.and_eq_true] at hb; exact hb.2
      have hs : (Resp.status n).httpStatus = n := rfl
      cases tr with
      | http => have := (status_table (.status n)).1.1 hi; rw [hs] at this; omega
      | grpc => have := (status_table (.status n)).2.1.1 hi; rw [hs] at this; omega
  · intro h
    simp [okResp, interpret, Resp.httpStatus, Resp.headArrives, Resp.grpcStatus, h]

/-- **No false success, no needless resend.** The client counts a request as delivered exactly when the
    collector acknowledged it (`Resp.isAck`: a 2xx status line on OTLP/HTTP — whatever becomes of the body —,
    `grpc-status: 0` or a complete 2xx response without any grpc-status on gRPC): for every response kind, both
    transports. In particular a gRPC response whose body stalls or breaks before the trailers is never read as
    `grpc-status: 0`. -/
theorem success_iff_acknowledged (tr : Transport) (r : Resp) : okResp tr r = Resp.isAck tr r := by
  cases tr <;> cases r <;> first
    | rfl
    | (simp [okResp, interpret, Resp.isAck, Resp.headArrives, Resp.httpStatus, Resp.bodyEnds, Resp.grpcStatus] <;> rfl)

/-- After a request on a live endpoint (no stale sender pooled) the slot holds a connection iff a response head
    arrived (a failing *status* keeps the connection, a broken exchange does not); unless that connection was
    dropped behind the response head (`leavesStale`), the next request then arrives on a fresh connection — and
    one more connection is established — iff the slot was left empty. -/
theorem conn_replaced (tr : Transport) (net : Net) (r1 r2 : Request) (hd : net.dead = false)
    (hs : net.staleNow = false) (hl : net.nextResp.leavesStale = false) :
    let n1 := (attempt tr net r1).2
    let n2 := (attempt tr n1 r2).2
    n1.slot = net.nextResp.headArrives ∧
    (∃ e, n2.log = e :: n1.log ∧ e.fresh = !net.nextResp.headArrives) ∧
    n2.conns = n1.conns + (if net.nextResp.headArrives then 0 else 1) := by
  simp only [attempt_live tr net r1 hd hs]
  have hd1 : (net.record r1).dead = false := by simpa using hd
  have hs1 : (net.record r1).staleNow = false := by simp [Net.staleNow, hl]
  simp only [attempt_live tr _ r2 hd1 hs1]
  refine ⟨rfl, ⟨_, rfl, rfl⟩, rfl⟩

/-- A connection dropped behind a response head costs exactly one attempt: the sender was already put back, the
    next attempt takes it, fails on it **without transmitting anything** (no log entry, the script is not
    consumed) and empties the slot; the attempt after that connects afresh and is transmitted. -/
theorem stale_sender_costs_one_attempt (tr : Transport) (net : Net) (r1 r2 r3 : Request) (hd : net.dead = false)
    (hs : net.staleNow = false) (hl : net.nextResp.leavesStale = true) (hh : net.nextResp.headArrives = true) :
    let n1 := (attempt tr net r1).2
    let a2 := attempt tr n1 r2
    let a3 := attempt tr a2.2 r3
    n1.staleNow = true ∧ a2.1 = false ∧ a2.2.log = n1.log ∧ a2.2.script = n1.script ∧ a2.2.slot = false ∧
    (∃ e, a3.2.log = e :: n1.log ∧ e.fresh = true ∧ e.resp = n1.nextResp) := by
  simp only [attempt_live tr net r1 hd hs]
  have hd1 : (net.record r1).dead = false := by simpa using hd
  have hs1 : (net.record r1).staleNow = true := by simp [Net.staleNow, hl, hh]
  simp only [attempt_stale tr _ r2 hd1 hs1, hs1, true_and]
  rw [attempt_live]
  · exact ⟨_, rfl, rfl, rfl⟩
  · exact hd1
  · simp [Net.staleNow]

/-- The three signals' transports side by side. -/
abbrev World := Signal → Net

/-- One request transmitted by the worker of signal `op.1`. -/
def World.step (tr : Transport) (w : World) (op : Signal × Request) : World :=
  fun s => if s = op.1 then (attempt tr (w s) op.2).2 else w s

/-- For every interleaving of the three workers' transmissions, what a signal's endpoint sees and the state of
    its connection are determined by that signal's own transmissions alone. -/
theorem signals_independent (tr : Transport) (ops : List (Signal × Request)) (w : World) (s : Signal) :
    (ops.foldl (World.step tr) w) s =
      ((ops.filter (fun op => op.1 = s)).map (·.2)).foldl (fun n r => (attempt tr n r).2) (w s) := by
  induction ops generalizing w with
  | nil => rfl
  | cons op ops ih =>
    simp only [List.foldl_cons]
    rw [ih]
    by_cases h : op.1 = s
    · simp [h, World.step]
    · have h' : ¬ s = op.1 := fun e => h e.symm
      simp [h, h', World.step]

/-- An outage (or any other difference) at one signal's endpoint does not change what any other signal
    delivers, under every interleaving. -/
theorem outage_does_not_stop_others (tr : Transport) (ops : List (Signal × Request)) (w w' : World)
    (s s' : Signal) (hs : s' ≠ s) (hw : ∀ x, x ≠ s → w' x = w x) :
    (ops.foldl (World.step tr) w') s' = (ops.foldl (World.step tr) w) s' := by
  rw [signals_independent, signals_independent, hw s' hs]

/-- the two delivery theorems below are instances of this -/
theorem runSignal_spec (tr : Transport) (limit : Nat) (evs : List Ev) (net : Net)
    (hd : net.dead = false) (hf : net.pending tr ≤ maxRetries) :
    ∃ (net' : Net) (es : List Entry), runSignal tr limit evs net = (true, net') ∧ net'.log = es ++ net.log ∧
      ((es.filter (ackedBy tr)).filterMap (·.ids)).flatten = evs.map (·.id) ∧
      (net.pending tr = 0 → ∀ e ∈ es, ackedBy tr e = true) := by
  have hinv := Chan.inv_ofEvents limit evs
  unfold runSignal
  by_cases h0 : (Chan.ofEvents limit evs).len = 0
  · obtain rfl : evs = [] := List.eq_nil_of_length_eq_zero (hinv.total.symm.trans h0)
    exact ⟨net, [], by simp [h0], by simp, by simp, by simp⟩
  · simp only [h0, ↓reduceIte]
    obtain ⟨net', es, hex, hlog, _, hids, hall⟩ :=
      exec_spec tr (Chan.ofEvents limit evs).total (by simp only [Chan.len] at h0; omega) maxRetries
        (Chan.ofEvents limit evs).requests net hd hf
    refine ⟨net', es, hex, hlog, ?_, hall⟩
    -- the requests are stored newest first and transmitted in that order
    rw [← congrArg (List.map (·.id)) hinv.flat]
    have := congrArg (fun l => (l.filterMap id).reverse.flatten) hids
    simpa [List.filterMap_map, List.filterMap_reverse, Function.comp_def, List.map_flatten, reqIds] using this

/-- **Every accepted event is delivered.** On a live endpoint whose failures still to come (`Net.pending`: the
    responses the client counts as failures, plus one wasted attempt per connection dropped behind a response
    head) fit in the retry budget (10 retries), whatever the limit, sizes, transport and failure kinds: the
    receiver ends with success and every event emitted for the signal is contained in at least one request that
    was acknowledged (`es` are the log entries added by this batch). -/
theorem every_event_delivered (tr : Transport) (limit : Nat) (evs : List Ev) (net : Net)
    (hd : net.dead = false) (hf : net.pending tr ≤ maxRetries) :
    ∃ (net' : Net) (es : List Entry), runSignal tr limit evs net = (true, net') ∧ net'.log = es ++ net.log ∧
      ∀ ev ∈ evs, ∃ e ∈ es, ackedBy tr e = true ∧ ∃ ids, e.ids = some ids ∧ ev.id ∈ ids := by
  obtain ⟨net', es, hex, hlog, hids, _⟩ := runSignal_spec tr limit evs net hd hf
  refine ⟨net', es, hex, hlog, fun ev hev => ?_⟩
  have : ev.id ∈ ((es.filter (ackedBy tr)).filterMap (·.ids)).flatten := hids ▸ List.mem_map_of_mem hev
  obtain ⟨ids, hin, hid⟩ := List.mem_flatten.1 this
  obtain ⟨e, he, heq⟩ := List.mem_filterMap.1 hin
  exact ⟨e, (List.mem_filter.1 he).1, (List.mem_filter.1 he).2, ids, heq, hid⟩

/-- **Exactly once when nothing fails.** If no response the endpoint will give counts as a failure, the
    entries added by the batch are all acknowledged and their ids, oldest request first, are exactly the ids
    of the emitted events in emission order — every event in exactly one acknowledged request, none twice. -/
theorem exactly_once_without_failures (tr : Transport) (limit : Nat) (evs : List Ev) (net : Net)
    (hd : net.dead = false) (hf : net.pending tr = 0) :
    ∃ (net' : Net) (es : List Entry), runSignal tr limit evs net = (true, net') ∧ net'.log = es ++ net.log ∧
      (∀ e ∈ es, ackedBy tr e = true) ∧
      (es.filterMap (·.ids)).flatten = evs.map (·.id) := by
  obtain ⟨net', es, hex, hlog, hids, hall⟩ := runSignal_spec tr limit evs net hd (by omega)
  exact ⟨net', es, hex, hlog, hall hf, List.filter_eq_self.mpr (hall hf) ▸ hids⟩

/-- A dead endpoint delivers nothing: the batch is dropped once the retry budget is used up, nothing was ever
    transmitted. (By `outage_does_not_stop_others` this does not affect the other signals.) -/
theorem dead_endpoint_drops (tr : Transport) (limit : Nat) (ev : Ev) (evs : List Ev) (net : Net)
    (hd : net.dead = true) :
    runSignal tr limit (ev :: evs) net = (false, { net with slot := false }) := by
  have hinv := Chan.inv_ofEvents limit (ev :: evs)
  unfold runSignal
  have h0 : ¬ (Chan.ofEvents limit (ev :: evs)).len = 0 := by rw [Chan.len, hinv.total]; simp
  simp only [h0, ↓reduceIte]
  cases hr : (Chan.ofEvents limit (ev :: evs)).requests with
  | nil => simpa [hr] using hinv.flat
  | cons r rs => exact exec_dead tr _ _ r rs net hd

-- a `Net` written positionally is ⟨dead, script, slot, conns, log, stale⟩

/-- The retry budget is real: eleven failing responses in a row and the batch is dropped — the receiver reports
    failure, the event was transmitted eleven times and never acknowledged. (`blocking_flush` still returns
    `true` afterwards: the batcher notifies flush watchers once a batch is *processed*, delivered or not — that
    is property C07's reading of flush, and why `every_event_delivered` carries the budget hypothesis.) -/
theorem retries_exhausted_drops :
    let net : Net := ⟨false, List.replicate 11 (.status 503), true, 1, [], false⟩
    let out := runSignal .http 1 [⟨1, 60⟩] net
    out.1 = false ∧ out.2.log.length = 11 ∧ out.2.log.all (fun e => !ackedBy .http e) = true := by
  decide

/-- Wasted attempts count against the same budget. (1) OTLP/HTTP, a collector that answers `200` and breaks
    every response body with the connection: every request is acknowledged, but each one after the first costs
    a failed attempt on the stale pooled sender — of 12 single-event requests 11 are transmitted (and
    acknowledged), then the budget is spent and the 12th event is dropped. (2) gRPC, six responses in a row whose
    connection drops between the headers and the trailers: 6 failed transmissions + 5 failed attempts on a stale
    sender = 11 failures, the event is dropped; with five such responses it is delivered. -/
theorem broken_bodies_exhaust_retries :
    (let net : Net := ⟨false, List.replicate 12 .drpH, true, 1, [], false⟩
     let out := runSignal .http 1 ((List.range 12).map fun i => ⟨Int.ofNat i + 1, 60⟩) net
     out.1 = false ∧ out.2.log.length = 11 ∧ out.2.log.all (fun e => ackedBy .http e) = true) ∧
    (let net : Net := ⟨false, List.replicate 6 .drpH, true, 1, [], false⟩
     let out := runSignal .grpc 1 [⟨1, 60⟩] net
     out.1 = false ∧ out.2.log.length = 6 ∧ out.2.log.all (fun e => !ackedBy .grpc e) = true) ∧
    (let net : Net := ⟨false, List.replicate 5 .drpH, true, 1, [], false⟩
     (runSignal .grpc 1 [⟨1, 60⟩] net).1 = true ∧ net.pending .grpc = 10) := by
  decide

example : ∃ net : Net, net.dead = false ∧ net.pending .grpc ≤ maxRetries ∧ net.pending .grpc = 6 :=
  ⟨⟨false, [.grpcH 14, .ack, .stall, .rstH, .status 503, .drpH], true, 1, [], false⟩, rfl, by decide +kernel, by decide +kernel⟩
example : ∃ net : Net, net.dead = false ∧ net.pending .http = 0 ∧ net.script ≠ [] :=
  ⟨⟨false, [.ackBody, .status 204, .grpc 3], true, 1, [], false⟩, rfl, by decide +kernel, by decide +kernel⟩
example : ∃ net : Net, net.dead = false ∧ net.staleNow = false ∧ net.nextResp.leavesStale = true ∧
    net.nextResp.headArrives = true := ⟨⟨false, [.drpH], true, 1, [], false⟩, rfl, rfl, rfl, rfl⟩
example : (Chan.ofEvents 100 [⟨1, 60⟩, ⟨2, 60⟩, ⟨3, 10⟩, ⟨4, 200⟩, ⟨5, 1⟩]).requests =
    [[⟨5, 1⟩], [⟨3, 10⟩, ⟨4, 200⟩], [⟨1, 60⟩, ⟨2, 60⟩]] := by decide +kernel
example : ∃ (reqs rem : List Request) (net net' : Net), net.dead = false ∧ send .http reqs net = (.retry rem, net') :=
  ⟨[[⟨1, 1⟩], [⟨2, 1⟩]], [[⟨2, 1⟩]], ⟨false, [.ack, .rstA], true, 1, [], false⟩,
   (send .http [[⟨1, 1⟩], [⟨2, 1⟩]] ⟨false, [.ack, .rstA], true, 1, [], false⟩).2, rfl, by decide +kernel⟩
example : ∃ (reqs : List Request) (net net' : Net), reqs.length = 2 ∧ send .grpc reqs net = (.ok, net') :=
  ⟨[[⟨1, 1⟩], [⟨2, 1⟩]], ⟨false, [.ack, .grpc 0], true, 1, [], false⟩,
   (send .grpc [[⟨1, 1⟩], [⟨2, 1⟩]] ⟨false, [.ack, .grpc 0], true, 1, [], false⟩).2, rfl, by decide +kernel⟩

end EmitModel.C12
