/-
  Thm/C03.lean — property C03: ambient context is a per-thread stack; frames leave no trace once exited.
  The ghost bookkeeping `G`, the discipline `wstep`/`run`, the invariant `Inv` and the bridge `compile_balanced` live
  in Lemmas/Ctxt.lean.

  Reading guide. `run s g evs = some (s', g')` says: the event list `evs` is WELL-NESTED from `(s, g)` — every
  `exit` closes the innermost entered frame of its (thread, context), a frame is entered at most once at a time
  (Rust's `&mut`), a handle is opened once — and executing it (`exec`, the function the driver runs) ends in `s'`
  with bookkeeping `g'` (`g'.stack t c` = entered frames of (t,c), innermost first; `g'.view f` = what frame `f`
  shows, fixed when it was opened). Events of all threads and contexts are interleaved arbitrarily in `evs`.

  OBLIGATIONS (audited by `check` with `#print axioms`):
    view_is_innermost, view_fixed_at_open, view_push, view_root, view_disabled, lastOf_eq_lookup, exit_restores,
    frame_block_restores, moved_frame_carries_view, isolation_step, isolation, interleave_polls,
    erased_storage_identity, erased_roundtrip, wrappers_transparent, existing_wrappers_transparent,
    default_open_push_not_transparent, trait_default_is_viaDefault, view_push_default,
    default_push_agrees_off_collisions, option_some_transparent, option_none_inert, parts_is_identity,
    traceparent_ctxt_transparent, program_balanced, program_view_is_innermost, tasks_balanced, no_trace,
    EmitModel.Ctxt.compile_balanced, EmitModel.Ctxt.compileL_balanced, EmitModel.Ctxt.inv_step
-/
import EmitModel.Lemmas.Ctxt
import EmitModel.Model.Traceparent
namespace EmitModel.C03
open EmitModel.Ctxt
variable {V : Type}

/-- The ghost bookkeeping of the pristine state: nothing opened, nothing entered. -/
def G0 (V : Type) : G V := ⟨fun _ _ => [], fun _ => none, fun _ => none, fun _ => none, fun _ _ => none⟩

theorem inv_init (inl : Bool) : Inv (St.init V inl) (G0 V) := by
  constructor <;> simp [St.init, G0, topOf]

theorem agree_init : Agree ([] : List (Nat × FSt)) (G0 V) := ⟨fun _ _ => rfl, fun f c h => by simp [lookupF] at h⟩

/-- **view_is_innermost.** At every point of every well-nested execution (any interleaving of threads and
    contexts, from any consistent start), what a thread sees in a context is exactly what the innermost frame
    entered on that (thread, context) shows — or what was there at the start when no frame is entered — and
    that is what `with_current` observes. -/
theorem view_is_innermost (s : St V) (g : G V) (hi : Inv s g) (evs : List (Ev V)) (s' : St V) (g' : G V)
    (hr : run s g evs = some (s', g')) (t c : Nat) :
    s' = exec s evs ∧
    s'.active t c = (match g'.stack t c with
                     | [] => g.base t c
                     | f :: _ => g'.view f) ∧
    output s' (.observe t c) = some ((match g'.stack t c with
                     | [] => g.base t c
                     | f :: _ => g'.view f).getD []) := by
  have h' := inv_run hi evs s' g' hr
  have hb := (ext_run evs s' g' hr).base
  have ha := h'.act t c
  refine ⟨run_fst evs s' g' hr, ?_, ?_⟩
  · rw [ha]; cases g'.stack t c <;> simp [topOf, hb]
  · simp only [output]; rw [ha]; cases g'.stack t c <;> simp [topOf, hb]

/-- What a frame shows is fixed when it is opened: `openFrame kind` applied to what the opening thread saw in
    that context at that moment (by `view_is_innermost`: the innermost entered frame's view there) — not to
    what is ambient when or where it is entered later. -/
theorem view_fixed_at_open (s : St V) (g : G V) (pre post : List (Ev V)) (t c f : Nat) (kind : Kind)
    (ps : List (String × V)) (s' : St V) (g' : G V)
    (hr : run s g (pre ++ .open t c f kind ps :: post) = some (s', g')) :
    g'.view f = openFrame kind ((exec s pre).active t c) ps := by
  rw [run_append] at hr
  cases h1 : run s g pre with
  | none => simp [h1] at hr
  | some p1 =>
    obtain ⟨s1, g1⟩ := p1
    simp only [h1, Option.bind, run] at hr
    split at hr
    · rename_i g2 hw
      have e1 := run_fst pre s1 g1 h1
      have hx := ext_run _ _ _ hr
      cases WStep.of_wstep hw
      rw [hx.view f c (by simp [G.open, setSlot])]
      simp [G.open, setSlot, e1]
    · simp at hr

/-- With distinct keys the last pair with key `k` is the only one. -/
theorem lastOf_eq_lookup (ps : List (String × V)) (hd : (ps.map Prod.fst).Nodup) (k : String) :
    lastOf ps k = ps.lookup k := by
  induction ps with
  | nil => rfl
  | cons a ps ih =>
    obtain ⟨k', v⟩ := a
    simp only [List.map_cons, List.nodup_cons] at hd
    simp only [lastOf, ih hd.2, List.lookup]
    by_cases e : k = k'
    · -- the keys are distinct, so no later pair has key `k`: the tail answers `none` both ways
      subst e
      simp [lastOf_nokey ps k fun p hp e => hd.1 (e ▸ List.mem_map_of_mem hp), ← ih hd.2]
    · have : (k == k') = false := by simp [e]
      simp only [this]
      cases ps.lookup k with
      | none => simp; intro h; exact e h.symm
      | some _ => rfl

/-- pushed frame: own properties (the last pair per key; with distinct keys the only one, `lastOf_eq_lookup`)
    overlaid on what was ambient at creation -/
theorem view_push (cur : Option (List (String × V))) (ps : List (String × V)) (k : String) :
    ((openFrame .push cur ps).map (get · k)) = some ((lastOf ps k).or (get (cur.getD []) k)) := by
  simp [openFrame, get_insertAll]

/-- root frame: only its own properties -/
theorem view_root (cur : Option (List (String × V))) (ps : List (String × V)) (k : String) :
    ((openFrame .root cur ps).map (get · k)) = some (lastOf ps k) := by
  simp [openFrame, get_insertAll, Ctxt.get]

/-- disabled frame (its props are ignored) and `Frame::current`: exactly what was ambient at creation -/
theorem view_disabled (cur : Option (List (String × V))) (ps : List (String × V)) :
    openFrame .disabled cur ps = some (cur.getD []) ∧ openFrame .current cur ps = some (cur.getD []) := by
  simp [openFrame, insertAll]

/-- **exit_restores.** After ANY balanced block (well-nested, every stack as before — whatever happened inside,
    on whichever threads): every thread sees in every context exactly what it saw before; the frames entered
    before are still entered; every frame known before shows what it showed before; and every frame that is
    not entered holds its own view in its slot again (so entering it again, on any thread, shows that view). -/
theorem exit_restores (s : St V) (g : G V) (hi : Inv s g) (blk : List (Ev V)) (s' : St V) (g' : G V)
    (hr : run s g blk = some (s', g')) (hst : g'.stack = g.stack) :
    (∀ t c, s'.active t c = s.active t c) ∧
    (∀ f, g'.loc f = g.loc f) ∧
    (∀ f c, g.ctxtOf f = some c → g'.ctxtOf f = some c ∧ g'.view f = g.view f) ∧
    (∀ f c, g'.ctxtOf f = some c → g'.loc f = none → (s'.slot f).get = g'.view f) := by
  have h' := inv_run hi blk s' g' hr
  have hx := ext_run blk s' g' hr
  refine ⟨fun t c => ?_, fun f => ?_, fun f c h => ⟨hx.ctxtOf f c h, hx.view f c h⟩, h'.idle⟩
  · -- the frames on the stack were open before, so they show what they showed
    rw [h'.act, hi.act, hst]
    exact topOf_congr g g' t c _ hx.base fun x hm =>
      let ⟨c', hc'⟩ := hi.opened x _ ((hi.locs t c x).1 hm)
      hx.view x c' hc'
  · -- where a frame is entered is read off the stacks, which are the same
    refine Option.ext fun ⟨t, c⟩ => ?_
    rw [← h'.locs, hst, hi.locs]

/-- A frame that is not entered can be entered on ANY thread `t` and shows its own view there: moving a frame
    (or a `FrameFuture`, or an `in_fn` closure) to another thread or task carries its properties with it. -/
theorem moved_frame_carries_view (s : St V) (g : G V) (hi : Inv s g) (f c : Nat)
    (hc : g.ctxtOf f = some c) (hl : g.loc f = none) (t : Nat) :
    (step s (.enter t c f)).active t c = g.view f ∧
    output (step s (.enter t c f)) (.observe t c) = some ((g.view f).getD []) := by
  have := hi.idle f c hc hl
  simp [step, swap, setActive, output, this]

/-- One use of a frame — guard scope, `with`/`call` closure, one `poll`, or unwinding through any of them:
    `enter f`, a balanced body, `exit f` is again a balanced block; afterwards everything is as before and the
    frame holds its own view again (it can be re-entered). -/
theorem frame_block_restores (s : St V) (g : G V) (hi : Inv s g) (f c t : Nat)
    (hc : g.ctxtOf f = some c) (hl : g.loc f = none) (body : List (Ev V)) (g1 : G V)
    (hw : wstep s g (.enter t c f) = some g1) (s2 : St V) (g2 : G V)
    (hb : run (step s (.enter t c f)) g1 body = some (s2, g2)) (hst : g2.stack = g1.stack) :
    ∃ s3 g3, run s g (.enter t c f :: body ++ [.exit t c f]) = some (s3, g3) ∧
      g3.stack = g.stack ∧ (∀ t' c', s3.active t' c' = s.active t' c') ∧
      (s3.slot f).get = g.view f ∧ g3.loc f = none := by
  -- `hc`, `hl` determine what `wstep` answers, so `g1` is `g.enter t c f`
  cases (WStep.enter t hc hl).wstep.symm.trans hw
  obtain ⟨hrun, hst3⟩ := run_block hc hl hb hst
  obtain ⟨ha, _, hv, hidle⟩ := exit_restores s g hi _ _ _ hrun hst3
  have hl3 : (g2.exit t c f (g.stack t c)).loc f = none := by simp [G.exit, setSlot]
  refine ⟨_, _, hrun, hst3, ha, ?_, hl3⟩
  rw [hidle f c (hv f c hc).1 hl3, (hv f c hc).2]

/-- the (thread, context) an event acts on, if it touches the thread-local state at all -/
def site : Ev V → Option (Nat × Nat)
  | .enter t c _ => some (t, c)
  | .exit t c _ => some (t, c)
  | _ => none

/-- **isolation**, one step: an event changes the thread-local entry of its own (thread, context) only
    (no hypothesis of well-nestedness needed). -/
theorem isolation_step (s : St V) (e : Ev V) (t' c' : Nat) (h : site e ≠ some (t', c')) :
    (step s e).active t' c' = s.active t' c' := by
  cases e <;> simp [step, swap, setActive, site] at * <;> intro h1 h2 <;> exact absurd h2.symm (h h1.symm)

/-- **isolation**: whatever other threads and other context instances do, what `(t', c')` sees is unchanged. -/
theorem isolation (s : St V) (evs : List (Ev V)) (t' c' : Nat) (h : ∀ e ∈ evs, site e ≠ some (t', c')) :
    (exec s evs).active t' c' = s.active t' c' := by
  induction evs generalizing s with
  | nil => rfl
  | cons e es ih =>
    simp only [exec]
    rw [ih (step s e) (fun e' he' => h e' (List.mem_cons_of_mem _ he')),
      isolation_step s e t' c' (h e List.mem_cons_self)]

/-- One poll of a frame-wrapped future (`FrameFuture::poll`, frame.rs:221-234): thread, context, frame, and
    the events of the inner future's poll. -/
structure Poll (V : Type) where
  t : Nat
  c : Nat
  f : Nat
  body : List (Ev V)

def Poll.block (p : Poll V) : List (Ev V) := .enter p.t p.c p.f :: p.body ++ [.exit p.t p.c p.f]

/-- What each poll's body sees on its (thread, context) when it starts. -/
def viewsSeen (s : St V) : List (Poll V) → List (Option (List (String × V)))
  | [] => []
  | p :: r => (step s (.enter p.t p.c p.f)).active p.t p.c :: viewsSeen (exec s p.block) r

/-- The hypotheses on a poll sequence, in ANY order (any interleaving of the tasks, any thread per poll): the
    frame was opened before the sequence started (`g0`) and is not entered; the inner poll is a balanced block. -/
def PollsOK (g0 : G V) : St V → G V → List (Poll V) → Prop
  | _, _, [] => True
  | s, g, p :: rest =>
    g0.ctxtOf p.f = some p.c ∧ g.loc p.f = none ∧
    ∃ g1 s2 g2, wstep s g (.enter p.t p.c p.f) = some g1 ∧
      run (step s (.enter p.t p.c p.f)) g1 p.body = some (s2, g2) ∧ g2.stack = g1.stack ∧
      ∀ s3 g3, run s g p.block = some (s3, g3) → PollsOK g0 s3 g3 rest

/-- `interleave_polls` from any later bookkeeping `g` that extends the one the frames were opened in (`Ext g0 g`): what
    the induction over the polls needs. -/
theorem interleave_polls_aux (g0 : G V) (polls : List (Poll V)) (s : St V) (g : G V) (hi : Inv s g) (hx : Ext g0 g)
    (ok : PollsOK g0 s g polls) :
    viewsSeen s polls = polls.map (fun p => g0.view p.f) ∧
    ∀ t c, (exec s (polls.flatMap Poll.block)).active t c = s.active t c := by
  induction polls generalizing s g with
  | nil => exact ⟨rfl, fun _ _ => rfl⟩
  | cons p rest ih =>
    obtain ⟨hc0, hl, g1, s2, g2, hw, hb, hst, hrest⟩ := ok
    have hc := hx.ctxtOf _ _ hc0
    obtain ⟨s3, g3, hr3, -, ha3, -, -⟩ := frame_block_restores s g hi p.f p.c p.t hc hl p.body g1 hw s2 g2 hb hst
    obtain rfl : s3 = exec s p.block := run_fst _ _ _ hr3
    obtain ⟨hv, ha'⟩ := ih _ g3 (inv_run hi _ _ _ hr3) (hx.trans (ext_run _ _ _ hr3)) (hrest _ g3 hr3)
    refine ⟨?_, fun t c => ?_⟩
    · simp only [viewsSeen, List.map_cons]
      rw [hv, (moved_frame_carries_view s g hi p.f p.c hc hl p.t).1, hx.view _ _ hc0]
    · rw [List.flatMap_cons, exec_append, ha', ha3]

/-- **interleave_polls.** For every sequence of polls of frame-wrapped futures — any interleaving of any number
    of tasks, each poll on any thread — every poll's body starts out seeing exactly its own frame's view (as
    fixed when the frame was opened), and after the sequence every thread sees what it saw before. -/
theorem interleave_polls (polls : List (Poll V)) (s : St V) (g0 : G V) (hi : Inv s g0) (ok : PollsOK g0 s g0 polls) :
    viewsSeen s polls = polls.map (fun p => g0.view p.f) ∧
    ∀ t c, (exec s (polls.flatMap Poll.block)).active t c = s.active t c := by
  exact interleave_polls_aux g0 polls s g0 hi (Ext.refl g0) ok

/-- Erased frames: the storage class never matters. Two runs that differ only in it stay in lock step. -/
theorem erased_storage_identity (evs : List (Ev V)) :
    observations (St.init V true) evs = observations (St.init V false) evs := by
  have key : ∀ (evs : List (Ev V)) (s1 s2 : St V), s1.active = s2.active → (∀ f, (s1.slot f).get = (s2.slot f).get) →
      observations s1 evs = observations s2 evs := by
    intro evs
    induction evs with
    | nil => intros; rfl
    | cons e es ih =>
      intro s1 s2 ha hs
      have hstep : (step s1 e).active = (step s2 e).active ∧ ∀ f, ((step s1 e).slot f).get = ((step s2 e).slot f).get := by
        cases e with
        | «open» t c f kind ps =>
          refine ⟨ha, fun f' => ?_⟩
          simp only [step, setSlot]; split
          · simp [ha]
          · exact hs f'
        | enter t c f | exit t c f =>
          refine ⟨?_, fun f' => ?_⟩
          · simp [step, swap, ha, hs]
          · simp only [step, swap, setSlot]; split
            · simp [ha]
            · exact hs f'
        | observe t c => exact ⟨ha, hs⟩
      have ho : output s1 e = output s2 e := by cases e <;> simp [output, ha]
      simp only [observations, ho]
      rw [ih _ _ hstep.1 hstep.2]
  exact key evs _ _ rfl (fun f => by simp [St.init])

theorem erased_roundtrip {α : Type} (b : Bool) (a a' : α) :
    (Erased.new b a).get = a ∧ ((Erased.new b a).set a').get = a' := by simp

/-- **wrappers_transparent.** A wrapper that forwards `open_push` to the inner ctxt opens exactly the frames the
    inner ctxt opens, for all four kinds — whether it forwards `open_disabled` too (`&C`, `Box`, `Arc`, `Option`,
    `dyn ErasedCtxt`, the ambient slot) or leaves it to the trait default (as `AssertInternal` did until repair D17; it forwards since). `enter`, `exit`,
    `with_current` and `open_root` have no default, so the whole machine (`step`) is the same. -/
theorem wrappers_transparent (w : Wrapper) (hw : w.push = .forward) (kind : Kind)
    (cur : Option (List (String × V))) (ps : List (String × V)) :
    openVia w kind cur ps = openFrame kind cur ps := by
  cases kind <;> simp only [openVia, pushVia, hw]
  · cases w.disabled <;> simp [openFrame]
  · simp [openFrame]

theorem existing_wrappers_transparent (kind : Kind) (cur : Option (List (String × V))) (ps : List (String × V)) :
    openVia Wrapper.forwarding kind cur ps = openFrame kind cur ps ∧
    openVia Wrapper.assertInternal kind cur ps = openFrame kind cur ps :=
  ⟨wrappers_transparent _ rfl kind cur ps, wrappers_transparent _ rfl kind cur ps⟩

/-- Why the forwarder matters: the trait default `open_push` re-roots `props ++ current`, and over
    `ThreadLocalCtxt::open_root` (`HashMap::insert`: the last pair wins) the AMBIENT value then overwrites the
    pushed one. A wrapper without the `open_push` forwarder is not transparent. -/
theorem default_open_push_not_transparent :
    openVia (⟨.traitDefault, .forward⟩ : Wrapper) .push (some [("a", 1)]) [("a", 2)] = some [("a", 1)] ∧
    openFrame .push (some [("a", 1)]) [("a", 2)] = some [("a", 2)] := by decide

/-- **trait_default_is_viaDefault.** A `Ctxt` that implements only the required methods — `open_push` and
    `open_disabled` left to the trait defaults — opens, for every `Frame` constructor, exactly the frame the
    machine opens for the kind and props `viaDefault` names. The driver runs the `defpush` variants through
    `viaDefault`; every machine-level theorem of this file is stated for all kinds, so it covers them. -/
theorem trait_default_is_viaDefault (kind : Kind) (cur : Option (List (String × V))) (ps : List (String × V)) :
    openVia (⟨.traitDefault, .traitDefault⟩ : Wrapper) kind cur ps =
      openFrame (viaDefault kind ps).1 cur (viaDefault kind ps).2 := by
  cases kind <;> simp [openVia, pushVia, viaDefault, openFrame]

/-- What the default `open_push` shows: `props.and_props(current)` enumerates the own pairs first and the ambient
    ones after them, and `ThreadLocalCtxt::open_root` keeps the LAST pair per key — so on a key that is both
    pushed and ambient the AMBIENT value is seen (the override `ThreadLocalCtxt::open_push` shows the pushed one,
    `view_push`). -/
theorem view_push_default (cur : Option (List (String × V))) (ps : List (String × V)) (k : String) :
    ((openFrame .pushDefault cur ps).map (get · k)) = some ((lastOf (cur.getD []) k).or (lastOf ps k)) := by
  simp [openFrame, get_insertAll, lastOf_append, Ctxt.get]

/-- On every key that is not BOTH pushed and ambient the default push and the override agree (for ambient maps
    with one pair per key, which is what the machine holds: `hc`). -/
theorem default_push_agrees_off_collisions (cur : Option (List (String × V))) (ps : List (String × V)) (k : String)
    (hc : lastOf (cur.getD []) k = get (cur.getD []) k)
    (h : lastOf ps k = none ∨ get (cur.getD []) k = none) :
    (openFrame .pushDefault cur ps).map (get · k) = (openFrame .push cur ps).map (get · k) := by
  rw [view_push_default, view_push, hc]
  rcases h with h | h <;> simp [h]

/-- **option_some_transparent.** `Some(c)` is transparent: the same observations as `c` itself. (The model's `stepOpt` /
    `outputOpt` are `if present then … else …`: this and the next theorem fold that definition over the events.) -/
theorem option_some_transparent (s : St V) (evs : List (Ev V)) :
    observationsOpt true s evs = observations s evs := by
  induction evs generalizing s with
  | nil => rfl
  | cons e es ih => simp only [observationsOpt, observations, outputOpt, stepOpt, if_true, ih]

/-- `None`: whatever the program does — any events, in any order, well-nested or not — every `with_current` sees no
    properties at all. -/
theorem option_none_inert (s : St V) (evs : List (Ev V)) :
    observationsOpt false s evs =
      (evs.filter fun | .observe _ _ => true | _ => false).map (fun _ => []) := by
  induction evs generalizing s with
  | nil => rfl
  | cons e es ih =>
    cases e <;> simp [observationsOpt, outputOpt, stepOpt, ih]

/-- `Frame::into_parts` + `Frame::from_parts` (+ `inner`, `inner_mut`) on a frame that is not entered: no event,
    no change of scoping state — the rebuilt frame is the frame (the `.parts` arm of `compile`). -/
theorem parts_is_identity (t f c : Nat) (σ : List (Nat × FSt)) (h : lookupF σ f = some (.idle c)) :
    compile (V := V) t σ (.parts f) = some ([], σ) := by
  simp [compile, h]

/-- **traceparent_ctxt_transparent** — `TraceparentCtxt<C>` for frames whose props carry no `span_id`:
    `incoming_traceparent` yields no slot, whatever the sampler, mask, and active traceparent; an inactive frame's
    `enter`/`exit` leave the thread's active traceparent alone, whatever it is, and with no traceparent `with_current`
    synthesises no ids — all that is left is the wrapped context's own behaviour (the C03 machine). -/
theorem traceparent_ctxt_transparent (c : Traceparent.Cfg) (useSampler : Bool) (st : Option Traceparent.Active)
    (traceId : Option Traceparent.Id) (mask : Traceparent.Mask) (calls : Nat) :
    Traceparent.incoming c useSampler st traceId none mask calls = (none, calls, []) ∧
    (Traceparent.Frm.swap ⟨false, none⟩ st = (⟨false, none⟩, st)) ∧
    Traceparent.ambientIds none = Traceparent.Ids.empty := by
  simp [Traceparent.incoming, Traceparent.Frm.swap, Traceparent.ambientIds]

/-- **program_balanced.** Every well-scoped program (`compileL … = some`; frames used via guard, `with`, `call`,
    `in_fn` on another thread, `in_future` polled in any scripted interleaving on any threads, panics unwinding
    to the nearest `catch_unwind`, thread hand-offs) executes as a balanced block from any consistent state:
    well-nested, every stack restored, every thread sees what it saw before, and every frame that still exists
    holds its own view (re-entrant). -/
theorem program_balanced (ps : List (Prog V)) (t : Nat) (σ σ' : List (Nat × FSt)) (evs : List (Ev V))
    (hc : compileL t σ (desugarL ps) = some (evs, σ')) (s : St V) (g : G V) (ha : Agree σ g) (hi : Inv s g) :
    ∃ g', run s g evs = some (exec s evs, g') ∧ g'.stack = g.stack ∧ Agree σ' g' ∧
      (∀ t c, (exec s evs).active t c = s.active t c) ∧
      (∀ f c, g'.ctxtOf f = some c → g'.loc f = none → ((exec s evs).slot f).get = g'.view f) := by
  obtain ⟨s', g', hr, hst, ha'⟩ := compileL_balanced (desugarL ps) t σ evs σ' hc s g ha hi
  have e := run_fst _ _ _ hr
  subst e
  obtain ⟨h1, _, _, h4⟩ := exit_restores s g hi evs _ g' hr hst
  exact ⟨g', hr, hst, ha', h1, h4⟩

/-- At every point of every program run from the pristine state, every thread sees in every context the view
    of the innermost frame entered there, and nothing when there is none. -/
theorem program_view_is_innermost (inl : Bool) (ps : List (Prog V)) (pre post : List (Ev V)) (σ' : List (Nat × FSt))
    (hc : compileL 0 [] (desugarL ps) = some (pre ++ post, σ')) :
    ∃ g1, run (St.init V inl) (G0 V) pre = some (exec (St.init V inl) pre, g1) ∧
      ∀ t c, (exec (St.init V inl) pre).active t c = (match g1.stack t c with
                                                      | [] => none
                                                      | f :: _ => g1.view f) := by
  obtain ⟨g', hr, _⟩ := program_balanced ps 0 [] σ' _ hc (St.init V inl) (G0 V) agree_init (inv_init inl)
  rw [run_append] at hr
  cases h1 : run (St.init V inl) (G0 V) pre with
  | none => simp [h1] at hr
  | some p1 =>
    obtain ⟨s1, g1⟩ := p1
    have e1 := run_fst _ _ _ h1
    subst e1
    refine ⟨g1, rfl, fun t c => ?_⟩
    exact (view_is_innermost _ _ (inv_init inl) pre _ g1 h1 t c).2.1

/-- The `tasks` construct alone: for every set of async bodies and EVERY schedule (interleaving, threads), the
    polls form a balanced block. -/
theorem tasks_balanced (ts : List (List (AProg V))) (sched : List (Nat × Nat)) (t : Nat) (σ σ' : List (Nat × FSt))
    (evs : List (Ev V)) (hc : compileL t σ (desugar (.tasks ts sched)) = some (evs, σ')) (s : St V) (g : G V)
    (ha : Agree σ g) (hi : Inv s g) :
    ∃ g', run s g evs = some (exec s evs, g') ∧ g'.stack = g.stack ∧
      (∀ t c, (exec s evs).active t c = s.active t c) := by
  have : desugarL [Prog.tasks ts sched] = desugar (.tasks ts sched) := by simp [desugarL]
  obtain ⟨g', h1, h2, _, h3, _⟩ := program_balanced [.tasks ts sched] t σ σ' evs (by rw [this]; exact hc) s g ha hi
  exact ⟨g', h1, h2, h3⟩

/-- **no_trace.** A whole program from the pristine state: nothing is left on any thread in any context. -/
theorem no_trace (inl : Bool) (ps : List (Prog V)) (evs : List (Ev V)) (σ' : List (Nat × FSt))
    (hc : compileL 0 [] (desugarL ps) = some (evs, σ')) (t c : Nat) :
    (exec (St.init V inl) evs).active t c = none := by
  obtain ⟨_, _, _, _, h, _⟩ := program_balanced ps 0 [] σ' evs hc (St.init V inl) (G0 V) agree_init (inv_init inl)
  rw [h]; rfl

/-- two tasks on context 1 interleaved on thread 0 inside an outer frame, one of them panicking in its second
    poll, a frame moved to thread 1 by `in_fn`: the program is well-scoped, so every theorem above applies -/
def demo : List (Prog Nat) :=
  [.new 1 1 .push [("a", 1)],
   .use 1 .enter
     [.new 2 1 .push [("b", 2)], .new 3 1 .root [("c", 3)],
      .tasks [[.ause 2 [.sync [.obs 1], .yield, .sync [.obs 1, .panic]]],
              [.ause 3 [.sync [.obs 1], .yield, .sync [.obs 1]]]]
             [(0, 0), (1, 0), (1, 0), (0, 0)],
      .obs 1,
      .new 4 1 .push [("a", 4)],
      .use 4 (.inFn 1) [.obs 1]],
   .obs 1]

example : runProg true demo =
    some [[("a", 1), ("b", 2)], [("c", 3)], [("c", 3)], [("a", 1), ("b", 2)], [("a", 1)], [("a", 4)], []] := by
  decide +kernel

example : (compileL 0 [] (desugarL demo)).isSome = true := by decide +kernel

/-- a consistent non-pristine start: two frames opened on context 0 (hypotheses `Inv`, `PollsOK`) -/
def opens : List (Ev Nat) := [.open 0 0 1 .push [("a", 1)], .open 0 0 2 .root [("b", 2)]]
def s0 : St Nat := exec (St.init Nat true) opens
def g0 : G Nat :=
  { G0 Nat with ctxtOf := setSlot (setSlot (fun _ => none) 1 (some 0)) 2 (some 0)
                view := setSlot (setSlot (fun _ => none) 1 (some [("a", 1)])) 2 (some [("b", 2)]) }

theorem run_opens : run (St.init Nat true) (G0 Nat) opens = some (s0, g0) := by
  simp [run, opens, wstep, G0, s0, g0, exec, step, St.init, openFrame, insertAll, EmitModel.Ctxt.insert, setSlot]

example : Inv s0 g0 := inv_run (inv_init true) _ _ _ run_opens

/-- frame 1 polled on thread 0, frame 2 on thread 1 (its body observes), frame 1 again on thread 2 -/
example : PollsOK g0 s0 g0 [⟨0, 0, 1, []⟩, ⟨1, 0, 2, [.observe 1 0]⟩, ⟨2, 0, 1, []⟩] := by
  simp [PollsOK, g0, G0, setSlot, wstep, run, Poll.block, setStack]
  exact ⟨_, _, ⟨rfl, rfl⟩, rfl, _, _, ⟨rfl, rfl⟩, rfl, _, _, ⟨rfl, rfl⟩, rfl⟩

end EmitModel.C03
