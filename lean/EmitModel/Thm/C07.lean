/-
  Thm/C07.lean — property C07: a successful flush means everything emitted before it has been processed.
  The channel's invariants (DESIGN Appendix A.2) live in Lemmas/BatcherFlush.lean and Lemmas/BatcherCover.lean, those
  of the emitters built on the channel in Lemmas/FilePipe.lean, OtlpPipe.lean and OtlpAll.lean.

  Quantifiers: every configuration, every state reachable by ANY label list (= every interleaving of flush
  requests with sends, hand-off, retries, any processor outcomes, any number of flushers), as long as the receiver
  has not been torn down (`tornDown = false`: alive, or returned normally after the sender was dropped).
  Flush-watcher names are ghost labels; the hypothesis `registered.Nodup` only says that distinct registrations
  were given distinct names (every real execution can be labelled that way).

  OBLIGATIONS (audited by `check` with `#print axioms`):
    flush_sound, flush_sound_accepted, in_batch_flag_covers_inflight, flush_after_retry,
    wait_timeout_true_only_if_flag, blocking_true_only_if_fired, async_true_only_if_fired_or_hungup,
    hangup_only_after_teardown, otlp_flush_true_iff, otlp_flush_false_if_busy,
    handoff_notifies_only_watchers_taken_under_lock, channel_calls_locked_only_in_take, file_flush_means_synced,
    otlp_flush_means_answered, otlp_flush_means_delivered_within_budget, file_pipeline_records_wellformed,
    otlp_emitter_flush_means_answered
-/
import EmitModel.Lemmas.BatcherCover
import EmitModel.Lemmas.BatcherExt
import EmitModel.Model.OtlpE2E
import EmitModel.Lemmas.FilePipe
import EmitModel.Lemmas.OtlpPipe
import EmitModel.Lemmas.OtlpAll

namespace EmitModel.C07
open EmitModel.Batcher EmitModel.Sched

/-- **Flush soundness** (obligation = what was pending or in flight at the registration). If the callback of
    flush watcher `w` has run, every item of its obligation is finalised (the last attempt of its batch has
    concluded: ok, permanent failure, retries exhausted, empty remainder, panic) or was cleared by a counted
    truncation. -/
theorem flush_sound (cfg : Cfg) (s : St) (h : Reachable cfg s) (hn : s.registered.Nodup)
    (ht : s.tornDown = false) (w : Nat) (obs : List Nat) (ho : (w, obs) ∈ s.obligations) (hf : w ∈ s.fired) :
    ∀ x ∈ obs, x ∈ s.finalised ∨ x ∈ s.truncations.flatten :=
  (invF_reachable cfg s h hn ht).fired_ok w obs ho hf

/-- **Flush soundness in the words of the property**: when the callback of `w` has run, *every item accepted
    before the flush was requested* is finalised or was discarded by an overflow truncation. -/
theorem flush_sound_accepted (cfg : Cfg) (s : St) (h : Reachable cfg s) (hn : s.registered.Nodup)
    (ht : s.tornDown = false) (w : Nat) (acc : List Nat) (ha : (w, acc) ∈ s.acceptedAt) (hf : w ∈ s.fired) :
    ∀ x ∈ acc, x ∈ s.finalised ∨ x ∈ s.truncations.flatten := by
  intro x hx
  obtain ⟨obs, ho, hc⟩ := (invC_reachable cfg s h ht).acc w acc ha
  exact (hc x hx).elim (flush_sound cfg s h hn ht w obs ho hf x) id

/-- `is_in_batch` over-approximates "a batch is in flight" — what makes the immediate-fire branch of
    `when_flushed` (lib.rs:296) sound; and with the `Sender` in hand the channel is open, which rules out the
    "closed ⇒ fire at once" disjunct firing over a non-empty queue. -/
theorem in_batch_flag_covers_inflight (cfg : Cfg) (s : St) (h : Reachable cfg s) (hn : s.registered.Nodup)
    (ht : s.tornDown = false) :
    (s.rx.inflight ≠ [] → s.inBatch = true) ∧ (s.senderAlive = true → s.isOpen = true) :=
  let i := invF_reachable cfg s h hn ht
  ⟨i.inflight_flag, i.open_⟩

/-- **Watchers travel with the remainder.** A granted retry fires nothing and keeps the watchers of the batch,
    through the back-off wait and into the retry call. -/
theorem flush_after_retry (cfg : Cfg) (s s' : St) (orig cur ws : List Nat) (hrx : s.rx = .processing orig cur ws) :
    (∀ rem orig' rem' ws', step cfg s (.rxOutcome (.failRetry rem)) = some s' → s'.rx = .retryWait orig' rem' ws' →
        orig' = orig ∧ rem' = rem ∧ ws' = ws ∧ s'.fired = s.fired ∧ s'.finalised = s.finalised) ∧
    (∀ t t' orig' rem' ws', t.rx = .retryWait orig' rem' ws' → step cfg t .rxRetryWaited = some t' →
        t'.rx = .processing orig' rem' ws' ∧ t'.fired = t.fired ∧ t'.finalised = t.finalised) := by
  constructor
  · intro rem orig' rem' ws' hs hr
    cases Step.of_step hs with
    | retry =>
      cases hrx
      cases hr
      simp
    | conclude => simp at hr
  · intro t t' orig' rem' ws' hr hs
    cases Step.of_step hs with
    | retryWaited =>
      cases hr
      simp

/-- `Trigger::wait_timeout` (sync.rs:163-201) returns `true` only if it saw the flag set — at the first lock or
    after some wake-up. The flag is written only by `Trigger::trigger`, which `blocking_flush` calls only from
    the callback it registers (sync.rs:81-87). -/
theorem wait_timeout_true_only_if_flag (timeout : Nat) (flag0 : Bool) (wakes : List CvWake)
    (h : waitTimeout timeout flag0 wakes = some true) : flag0 = true ∨ ∃ k ∈ wakes, k.flag = true := by
  fun_induction waitTimeout timeout flag0 wakes
  case case1 => exact .inl rfl
  case case4 k rest _ _ ih =>
    exact .inr ((ih h).elim (fun a => ⟨k, by simp, a⟩) fun ⟨k', hk', a⟩ => ⟨k', by simp [hk'], a⟩)
  case case5 k _ _ _ | case6 k _ _ => exact .inr ⟨k, by simp, by simpa using h⟩
  all_goals cases h

-- the flag seen at the second wake-up; and a timed-out wait that never saw it
example : waitTimeout 100 false [⟨false, false, 30⟩, ⟨true, false, 20⟩] = some true := by decide
example : waitTimeout 100 false [⟨false, false, 30⟩, ⟨false, true, 70⟩] = some false := by decide

/-- **A blocking flush returns `true` only if the callback ran.** `s0` is the state right after the
    registration of `w`, the flag readings of `wait_timeout` are "has the callback of `w` run" in the states
    `sts` the system is in at the wake-ups; all of them lie on the way to the state `sf` in which the call
    returns. Then `w ∈ sf.fired`, and `flush_sound` applies to `sf`. -/
theorem blocking_true_only_if_fired (cfg : Cfg) (w timeout : Nat) (s0 sf : St) (sts : List (St × Bool × Nat))
    (h0 : ∃ ls, run (step cfg) s0 ls = some sf) (hs : ∀ p ∈ sts, ∃ ls, run (step cfg) p.1 ls = some sf)
    (hret : waitTimeout timeout (decide (w ∈ s0.fired))
      (sts.map fun p => { flag := decide (w ∈ p.1.fired), timedOut := p.2.1, elapsed := p.2.2 }) = some true) :
    w ∈ sf.fired := by
  rcases wait_timeout_true_only_if_flag _ _ _ hret with a | ⟨k, hk, a⟩
  · obtain ⟨ls, hl⟩ := h0
    exact fired_mono cfg w ls s0 sf (by simpa using a) hl
  · simp only [List.mem_map] at hk
    obtain ⟨p, hp, rfl⟩ := hk
    obtain ⟨ls, hl⟩ := hs p hp
    exact fired_mono cfg w ls p.1 sf (by simpa using a) hl

/-- **The async flush** (`tokio::wait`, tokio.rs:132-152) resolves `true` only if the oneshot was sent — the
    callback ran — or its sender was dropped unsent, i.e. the callback was dropped without running. -/
theorem async_true_only_if_fired_or_hungup (timeout : Nat) (atTry : Oneshot) (later : TimedRecv)
    (h : oneshotWait timeout atTry later = true) :
    atTry = .sent ∨ later = .received ∨ later = .hungUp := by
  unfold oneshotWait at h
  by_cases h1 : atTry = .sent
  · exact Or.inl h1
  · by_cases h2 : timeout = 0
    · simp [h1, h2] at h
    · cases later <;> simp_all

/-- … and a flush callback is dropped without running only when the receiver is torn down (outside "while the
    receiver is alive"). -/
theorem hangup_only_after_teardown (cfg : Cfg) (s : St) (h : Reachable cfg s) :
    s.dropped ≠ [] → s.tornDown = true :=
  dropped_reachable cfg s h

/-- **A hand-off notifies exactly the flush watchers it took under the lock.** Whatever sender steps land after the
    critical section of a hand-off — from inside a user-supplied `Channel` method the receiver calls outside the lock
    (`chanCallsAfter`, `chanCallsIn`), from inside a callback or closure, from another thread — the watchers the
    receiver holds (the ones this hand-off, or the batch it took, will notify) are exactly those that were pending
    at the instant the queue was swapped out / found empty: a watcher first registered afterwards is not among them
    (it waits behind whatever was accepted before it), and the state is an ordinary reachable one, so `flush_sound`
    applies to it. In particular "send, then when_flushed" landing right after the receiver found the queue empty is
    not notified by that empty hand-off. -/
theorem handoff_notifies_only_watchers_taken_under_lock (cfg : Cfg) (s s1 s' : St) (h : Reachable cfg s)
    (hn : s.registered.Nodup) (ht : s.tornDown = false) (htake : step cfg s .rxTake = some s1)
    (ls : List Label) (hl : ∀ l ∈ ls, l.isSender = true) (hrun : run (step cfg) s1 ls = some s') :
    s'.rx = s1.rx ∧ s'.rx.ws = s.pendFlushW ∧ (∀ w, w ∉ s.registered → w ∉ s'.rx.ws) ∧ Reachable cfg s' := by
  obtain ⟨e1, _, _⟩ := sender_run_rx cfg ls s1 s' hl hrun
  have hws : s1.rx.ws = s.pendFlushW := by
    cases Step.of_step htake with
    | take => rfl
  refine ⟨e1, by rw [e1, hws], ?_, Sched.Reachable.run (Sched.Reachable.step h htake) hrun⟩
  intro w hw hin
  rw [e1, hws] at hin
  exact hw ((invF_reachable cfg s h hn ht).pend_reg w hin)

/-- **Where the receiver calls user code under the lock.** Of all the `Channel` method calls `Receiver::exec`
    makes, only the two inside the critical section of the hand-off (`rxTake`) happen with the state lock held; every
    other one — at the start of `exec`, after the `when_empty` callbacks of a hand-off, before the re-allocation,
    after a returned remainder — is outside it, i.e. a position between two labels of the system (what stream
    `batcher` observes on the real receiver by probing the lock from inside its own channel type). -/
theorem channel_calls_locked_only_in_take (s : St) (l : Label) :
    (∀ c ∈ chanCallsIn s l, c.locked = true → l = .rxTake) ∧
    (∀ c ∈ chanCallsAfter s l, c.locked = false) ∧ (∀ c ∈ chanCallsAtStart, c.locked = false) := by
  refine ⟨?_, ?_, by simp [chanCallsAtStart]⟩
  · intro c hc hl
    cases l <;> simp [chanCallsIn] at hc
    case rxTake => rfl
    case rxBegin => rcases hc.2 with rfl | rfl <;> simp at hl
    case rxOutcome o => cases o <;> simp at hc; subst hc; simp at hl
  · intro c hc
    cases l <;> simp [chanCallsAfter] at hc
    all_goals (split at hc <;> simp at hc; subst hc; rfl)

/-- The sequence case of stream `batcher_blocking_c07` (`Batcher.flushSequence`: two blocking flushes on one thread,
    the first timing out; the earlier call's callback — watcher 1 — runs during the later call): when watcher 1
    has run, item 3 (accepted before flush #2 was requested) is not finalised yet and watcher 2 has not run; when
    watcher 2 has run, everything is. Each call reads only its own trigger. -/
def seqLabels : List Label :=
  [.send 1, .rxTake, .rxBegin, .send 2, .whenFlushed 1, .rxOutcome .ok, .rxTake, .rxBegin, .send 3, .whenFlushed 2,
   .rxOutcome .ok, .rxFireFlush, .rxTake, .rxBegin]

example : ∃ s, Reachable (Cfg.real 8) s ∧ s.fired = [1] ∧ s.finalised = [1, 2] ∧ s.rx.ws = [2] :=
  ⟨_, ⟨seqLabels, rfl⟩, by decide⟩

example : ∃ s, Reachable (Cfg.real 8) s ∧ s.fired = [1, 2] ∧ s.finalised = [1, 2, 3] :=
  ⟨_, ⟨seqLabels ++ [.rxOutcome .ok, .rxFireFlush], rfl⟩, by decide⟩

/-- The slow-processor case of stream `batcher_blocking_c07` (`Batcher.slowFlush`, seeded change C07-r4m2): items
    `[1, 2]` are with the processor when the companion watcher 0 and the flush's watcher 1 are registered; whatever
    the attempt's outcome — and however long it takes: the execution below is the same label list for a 1 s and a
    120 s attempt — both watchers run only after it, with both items through their final attempt (`flush_sound` for
    this reachable state); one label earlier nothing has fired. -/
example : ∀ o ∈ [Outcome.ok, .failNoRetry, .panicSync, .panicAsync, .failRetry []],
    (slowFlush (Cfg.real 4) 2 o 60000).map (fun r => (r.1, r.2.1, r.2.2.1)) = some (true, 2, 2) := by decide

example : ∃ s, Reachable (Cfg.real 4) s ∧ s.rx = .processing [1, 2] [1, 2] [] ∧ s.pendFlushW = [0, 1] ∧
    s.fired = [] ∧ s.finalised = [] ∧ (1, [1, 2]) ∈ s.obligations :=
  ⟨_, ⟨[.send 1, .send 2, .rxTake, .rxBegin, .whenFlushed 0, .whenFlushed 1], rfl⟩, by decide⟩

/-- Flush requested while batch `[1]` is in flight and `2` is queued; the batch is retried, succeeds; the next
    batch `[2]` panics; only then the callback runs. -/
def demo : List Label :=
  [.send 1, .rxTake, .rxBegin, .send 2, .whenFlushed 7, .rxOutcome (.failRetry [1]), .rxRetryWaited,
   .rxOutcome .ok, .rxTake, .rxBegin, .rxOutcome .panicAsync, .rxFireFlush]

example : ∃ s, Reachable (Cfg.real 4) s ∧ s.registered.Nodup ∧ s.tornDown = false ∧
    (7, [2, 1]) ∈ s.obligations ∧ (7, [1, 2]) ∈ s.acceptedAt ∧ 7 ∈ s.fired ∧ s.finalised = [1, 2] :=
  ⟨_, ⟨demo, rfl⟩, by decide⟩

/-- One step earlier the callback has not run. -/
example : ∃ s, Reachable (Cfg.real 4) s ∧ 7 ∉ s.fired ∧ s.rx.ws = [7] :=
  ⟨_, ⟨demo.dropLast, rfl⟩, by decide⟩

/-- The schedule of seeded change C07-r4m1 (corpus of stream `batcher`): the receiver finds the queue empty; `send 1`
    and `when_flushed 10` land right behind the critical section (inside the `Channel` call that follows it). The
    empty hand-off does not notify watcher 10 — it is pending behind item 1 — … -/
example : ∃ s, Reachable (Cfg.real 4) s ∧ s.rx = .taken [] [] [] true ∧ s.pending = [1] ∧ s.pendFlushW = [10] ∧
    s.fired = [] ∧ (10, [1]) ∈ s.obligations :=
  ⟨_, ⟨[.rxTake, .send 1, .whenFlushed 10], rfl⟩, by decide⟩

/-- … and runs only after the batch `[1]` has been processed. -/
example : ∃ s, Reachable (Cfg.real 4) s ∧ s.fired = [10] ∧ s.finalised = [1] :=
  ⟨_, ⟨[.rxTake, .send 1, .whenFlushed 10, .rxBegin, .rxIdleWaited, .rxTake, .rxBegin, .rxOutcome .ok, .rxFireFlush], rfl⟩,
   by decide⟩

end EmitModel.C07

namespace EmitModel.C07
open EmitModel.OtlpE2E

/-- **OTLP flush waits on every configured signal** (stream `c07_otlp`). `Otlp::blocking_flush` reports success iff
    every configured signal's channel flush does — whatever the other signals' results, in particular a healthy later
    signal cannot mask an earlier one that still has a request in flight or waiting to be retried. -/
theorem otlp_flush_true_iff (l t m : SigState) :
    otlpFlush l t m = true ↔ ∀ s ∈ [l, t, m], s.configured = true → s.busy = false := by
  cases l <;> cases t <;> cases m <;> decide

/-- A request parked at the collector (or waiting in a retry back-off) on any configured signal makes the flush
    report `false` — also with a zero timeout. -/
theorem otlp_flush_false_if_busy (l t m : SigState) (s : SigState) (hs : s ∈ [l, t, m])
    (hc : s.configured = true) (hb : s.busy = true) : otlpFlush l t m = false := by
  cases h : otlpFlush l t m with
  | false => rfl
  | true => have := (otlp_flush_true_iff l t m).mp h s hs hc; simp [hb] at this

end EmitModel.C07

namespace EmitModel.C07
open EmitModel.Batcher EmitModel.Sched EmitModel.FileSet

/-- **A successful flush of the file emitter means written and synced.** In every execution of the rolling-file
    emitter as a whole — any interleaving of sends, flush requests, hand-offs, callbacks, retry waits and drops,
    with every conclusion of an `on_batch` call being what the file worker does on the held batch under ANY fault
    plan (errors and short writes at any filesystem call) — once the callback of flush watcher `w` has run, every
    item accepted before the flush was requested is: cleared by a counted overflow truncation; or part of a batch
    the worker gave up (`no_retry`, or the retry budget ran out — `failed`); or KEPT: its event is complete, on a
    record boundary, in the synced content of a durable file of the set (or the worker's own retention has
    deleted a file of the set since the batch began: the statement does not tie the deleted file to the event). In particular an event written by an attempt that later failed is
    synced too (D19). The statement covers the states AFTER A CRASH as well: a filesystem call that kills the process
    leaves what the crash left (synced content, durable entries) and ends the execution; what a fired flush callback
    promised is still there (`PInv.okd` is kept by an `on_batch` call of every outcome, crashes included:
    `FileSet.onBatch_keeps`). Receiver alive, as in `flush_sound`. -/
theorem file_flush_means_synced (cfg : FilePipe.Cfg) (E : List Nat → Prop) (c : Nat) (hsep : cfg.file.sep = [c])
    (hwf : WfEvents E c) (hev : ∀ x, E (cfg.ev x)) (fs0 : FileSet.St) (h0 : FileSet.Inv cfg.file E c fs0)
    (s : FilePipe.St) (h : FilePipe.Reachable cfg fs0 s) (hn : s.ch.registered.Nodup) (ht : s.ch.tornDown = false)
    (w : Nat) (acc : List Nat) (ha : (w, acc) ∈ s.ch.acceptedAt) (hf : w ∈ s.ch.fired) :
    ∀ x ∈ acc, x ∈ s.ch.truncations.flatten ∨ x ∈ s.failed ∨
      ∃ L, L ≤ s.fs.log.length ∧ Kept cfg.file c L (cfg.ev x) s.fs := by
  intro x hx
  have hp := FilePipe.pinv_reachable hsep hwf hev fs0 h0 s h
  exact (flush_sound_accepted cfg.ch s.ch (FilePipe.reachable_proj cfg fs0 s h) hn ht w acc ha hf x hx).symm.imp_right
    fun hfin => (hp.fin x hfin).imp_right fun ⟨L, hL⟩ => ⟨L, hp.okd _ hL⟩

/-- **No record is ever mangled — in the emitter as a whole.** In every state the rolling-file emitter can reach (any
    interleaving of sends, flush requests, hand-offs, retries, drops; any fault plan), every separator-delimited
    record of every file of the set is empty, a complete event some `emit` formatted, or a non-empty strict prefix of
    one such event — never bytes of two events; and without an interrupting fault (short write that put bytes) every
    record is empty or complete. -/
theorem file_pipeline_records_wellformed (cfg : FilePipe.Cfg) (E : List Nat → Prop) (c : Nat) (hsep : cfg.file.sep = [c])
    (hwf : WfEvents E c) (hev : ∀ x, E (cfg.ev x)) (fs0 : FileSet.St) (h0 : FileSet.Inv cfg.file E c fs0)
    (s : FilePipe.St) (h : FilePipe.Reachable cfg fs0 s) (n : List Nat) (f : File)
    (hget : fsGet s.fs.fs n = some f) (hmem : isMember cfg.file.pfx cfg.file.ext n = true) :
    ∀ r ∈ splitOn c f.content,
      r = [] ∨ E (r ++ [c]) ∨ (s.fs.faulted = true ∧ r ≠ [] ∧ ∃ e, E e ∧ r <+: e ∧ r.length < e.length) := by
  have hp := FilePipe.pinv_reachable hsep hwf hev fs0 h0 s h
  exact (hp.fsInv.good n f hget hmem).records hwf

private def pcfg : FilePipe.Cfg :=
  { ch := Batcher.Cfg.real 10,
    file := { pfx := [97], ext := [108], rollBy := .minute, reuse := false, maxFiles := 3, maxSize := 100, sep := [10] },
    ev := fun x => [97 + x, 10],
    plan := fun i => if i = 5 then .err else .ok }
private def pnow : Parts := { years := 2024, months := 1, days := 1, hours := 0, minutes := 0, seconds := 0, nanos := 0 }
private def plabels : List FilePipe.Label :=
  [.chan (.send 0), .chan (.send 1), .chan (.whenFlushed 7), .chan .rxTake, .chan .rxBegin, .process pnow 7,
   .chan .rxRetryWaited, .process pnow 8, .chan .rxFireFlush]

/-- non-vacuity: two events, the write of the second fails once, the retry goes to a new file; the flush callback
    registered before the hand-off fires after the retry, and both events are in synced content (`.process now id`: the
    clock and id readings of the attempt; the plan fails filesystem call 5) -/
example : ((Sched.run (FilePipe.step pcfg) (FilePipe.init emptyState) plabels).map fun s =>
    (s.ch.fired, s.ch.acceptedAt, s.failed, s.okd, s.fs.fs.map (·.2.synced), s.ch.tornDown)) =
    some ([7], [(7, [0, 1])], [], [(0, 0), (1, 0)], [[97, 10], [98, 10]], false) := by rfl

private def ccfg : FilePipe.Cfg :=
  { ch := Batcher.Cfg.real 10,
    file := { pfx := [97], ext := [108], rollBy := .minute, reuse := false, maxFiles := 3, maxSize := 100, sep := [10] },
    ev := fun x => [97 + x, 10],
    plan := fun i => if i = 8 then .crash 1 [5] true else .ok }
private def clabels : List FilePipe.Label :=
  [.chan (.send 0), .chan (.whenFlushed 7), .chan .rxTake, .chan .rxBegin, .process pnow 7, .chan .rxFireFlush,
   .chan (.send 1), .chan .rxTake, .chan .rxBegin, .process pnow 8]

/-- non-vacuity with a crash: event 0 is flushed (callback 7 fires), then the process dies at filesystem call 8 while
    the next batch is being written (losing unsynced bytes and the new, not yet durable directory entry): the state is
    reachable, crashed, and event 0 is still in synced content -/
example : ((Sched.run (FilePipe.step ccfg) (FilePipe.init emptyState) clabels).map fun s =>
    (s.crashed, s.ch.fired, s.okd, s.ch.tornDown, s.fs.fs.map (fun nf => (nf.2.synced, nf.2.unsynced)))) =
    some (true, [7], [(0, 0)], false, [([97, 10], [])]) := by rfl

end EmitModel.C07

namespace EmitModel.C07
open EmitModel.Batcher EmitModel.Sched EmitModel.Otlp

/-- **A successful flush of an OTLP signal means answered.** In every execution of one signal of the OTLP emitter as
    a whole — any interleaving of sends, flush requests, hand-offs, callbacks, retry waits and drops, with every
    conclusion of an `on_batch` call being what the transport's send loop does with the held requests against ANY
    collector script (acknowledgements, error statuses, gRPC statuses, resets before or after the body, stalls,
    connections dropped behind a response head, a dead endpoint) — once the callback of flush watcher `w` has run,
    every item accepted before the flush was requested is: cleared by a counted overflow truncation; or part of a batch
    that was given up (retry budget exhausted / `no_retry`); or DELIVERED: contained in a request the collector
    recorded and answered with what the client takes as an acknowledgement. Receiver alive, as in `flush_sound`. -/
theorem otlp_flush_means_answered (cfg : OtlpPipe.Cfg) (net0 : Net) (s : OtlpPipe.St)
    (h : OtlpPipe.Reachable cfg net0 s) (hn : s.ch.registered.Nodup) (ht : s.ch.tornDown = false)
    (w : Nat) (acc : List Nat) (ha : (w, acc) ∈ s.ch.acceptedAt) (hf : w ∈ s.ch.fired) :
    ∀ x ∈ acc, x ∈ s.ch.truncations.flatten ∨ x ∈ s.failed ∨ OtlpPipe.Delivered cfg.tr s.net.log (x : Int) := by
  intro x hx
  have hp := OtlpPipe.pinv_reachable cfg net0 s h
  exact (flush_sound_accepted cfg.ch s.ch (OtlpPipe.reachable_proj cfg net0 s h) hn ht w acc ha hf x hx).symm.imp_right
    fun hfin => (hp.fin x hfin).imp_right (hp.okd x)

private def ocfg : OtlpPipe.Cfg := { ch := Batcher.Cfg.real 10, tr := .http, limit := 2, size := fun _ => 1 }
private def onet : Net := { dead := false, script := [.status 503], slot := false, conns := 0, log := [] }
private def olabels : List OtlpPipe.Label :=
  [.chan (.send 0), .chan (.send 1), .chan (.send 2), .chan (.whenFlushed 7), .chan .rxTake, .chan .rxBegin, .process,
   .chan .rxRetryWaited, .process, .chan .rxFireFlush]

/-- non-vacuity: three events in two requests (limit 2 bytes, sizes 1), the collector answers the first request with
    503 and then acknowledges; the flush callback registered before the hand-off fires after the retry and all three
    events are in acknowledged requests (the collector's log reads newest first, and the transport sends the last
    request first: `[2]` is refused, sent again, then `[0, 1]`) -/
example : ((Sched.run (OtlpPipe.step ocfg) (OtlpPipe.init onet) olabels).map fun s =>
    (s.ch.fired, s.ch.acceptedAt, s.failed, s.okd, s.net.log.map (fun e => (e.ids, okResp .http e.resp)), s.ch.tornDown)) =
    some ([7], [(7, [0, 1, 2])], [], [0, 1, 2],
      [(some [0, 1], true), (some [2], true), (some [2], false)], false) := by rfl

/-- **Within the retry budget a successful OTLP flush means delivered.** If the collector is reachable and the failures
    it still has in store (`Net.pending`: the responses the client counts as failures, plus one wasted attempt per
    connection dropped behind a response head) fit in the retry budget, then in every execution of the signal as a
    whole no batch is ever given up — so once the callback of flush watcher `w` has run, every item accepted before the
    flush was requested was cleared by a counted overflow truncation or is in a request the collector acknowledged.
    (C12 `every_event_delivered` for one batch, here for every interleaving and any number of batches.) -/
theorem otlp_flush_means_delivered_within_budget (cfg : OtlpPipe.Cfg) (net0 : Net) (hd : net0.dead = false)
    (hb : net0.pending cfg.tr ≤ cfg.ch.retryMax) (s : OtlpPipe.St) (h : OtlpPipe.Reachable cfg net0 s)
    (hn : s.ch.registered.Nodup) (ht : s.ch.tornDown = false) (w : Nat) (acc : List Nat)
    (ha : (w, acc) ∈ s.ch.acceptedAt) (hf : w ∈ s.ch.fired) :
    ∀ x ∈ acc, x ∈ s.ch.truncations.flatten ∨ OtlpPipe.Delivered cfg.tr s.net.log (x : Int) := by
  intro x hx
  have hnone := (OtlpPipe.binv_reachable cfg net0 hd hb s h).noneFailed
  exact (otlp_flush_means_answered cfg net0 s h hn ht w acc ha hf x hx).imp_right fun h1 =>
    h1.elim (fun h1 => by rw [hnone] at h1; cases h1) id

-- the hypotheses are met by the run above: one failing response against a budget of ten
example : onet.dead = false ∧ onet.pending ocfg.tr ≤ ocfg.ch.retryMax := by decide

/-- **A successful flush of the OTLP emitter means answered, signal by signal.** In every execution of the whole
    emitter — events of any shape emitted in any order and routed by `OtlpInner::emit` (C14), the three signals' channels,
    workers and collectors running interleaved in any way, each against any collector script — once the callback of a
    flush watcher `w` registered on signal `g` has run (`Otlp::blocking_flush` registers one per configured signal and
    reports success only when all have, `otlp_flush_true_iff`), every event that signal had accepted before the
    registration is one the routing assigns to `g` and no other signal, and it was cleared by a counted overflow
    truncation of `g`'s channel, belongs to a batch `g` gave up, or is in a request `g`'s collector acknowledged. -/
theorem otlp_emitter_flush_means_answered (cfg : OtlpAll.Cfg) (net0 : Signal → Net) (s : OtlpAll.St)
    (h : OtlpAll.Reachable cfg net0 s) (g : Signal) (hn : (s.get g).ch.registered.Nodup)
    (ht : (s.get g).ch.tornDown = false) (w : Nat) (acc : List Nat)
    (ha : (w, acc) ∈ (s.get g).ch.acceptedAt) (hf : w ∈ (s.get g).ch.fired) :
    ∀ x ∈ acc, route cfg.logs cfg.traces cfg.metrics (cfg.shape x) = .signal g ∧
      (x ∈ (s.get g).ch.truncations.flatten ∨ x ∈ (s.get g).failed ∨
        OtlpPipe.Delivered (cfg.pipe g).tr (s.get g).net.log (x : Int)) := by
  intro x hx
  obtain ⟨hr, hrouted⟩ := OtlpAll.reachable_sig cfg net0 s h g
  have hsub := (Batcher.invAcc_reachable (cfg.pipe g).ch (s.get g).ch
    (OtlpPipe.reachable_proj (cfg.pipe g) (net0 g) (s.get g) hr)).sub (w, acc) ha x hx
  exact ⟨hrouted x hsub, otlp_flush_means_answered (cfg.pipe g) (net0 g) (s.get g) hr hn ht w acc ha hf x hx⟩

private def spanShape : Shape := { kind := .span, extent := .range, hasName := false, value := .missing, agg := .missing }
private def logShape : Shape := { kind := .none, extent := .point, hasName := false, value := .missing, agg := .missing }
private def acfg : OtlpAll.Cfg :=
  { logs := true, traces := true, metrics := false,
    pipe := fun _ => { ch := Batcher.Cfg.real 10, tr := .http, limit := 100, size := fun _ => 1 },
    shape := fun x => if x = 1 then spanShape else logShape }
private def anet : Signal → Net := fun g =>
  { dead := false, script := if g = .traces then [.status 503] else [], slot := false, conns := 0, log := [] }
private def alabels : List OtlpAll.Label :=
  [.emit 0, .emit 1, .emit 2, .sig .traces (.chan (.whenFlushed 7)), .sig .traces (.chan .rxTake), .sig .traces (.chan .rxBegin),
   .sig .traces .process, .sig .traces (.chan .rxRetryWaited), .sig .traces .process, .sig .traces (.chan .rxFireFlush)]
/-- non-vacuity: logs and traces configured; events 0 and 2 are logs, event 1 is a span; the traces collector answers 503
    once; a flush watcher registered on traces fires after the retry: the one event the traces signal had accepted is the
    span, delivered on traces; the log events sit in the logs channel, untouched -/
example : ((Sched.run (OtlpAll.step acfg) (OtlpAll.init anet) alabels).map fun s =>
    (s.traces.ch.fired, s.traces.ch.acceptedAt, s.traces.okd, s.logs.ch.accepted,
     s.traces.net.log.map (fun e => (e.ids, okResp .http e.resp)), s.logs.net.log.length, s.traces.ch.tornDown)) =
    some ([7], [(7, [1])], [1], [0, 2], [(some [1], true), (some [1], false)], 0, false) := by rfl

end EmitModel.C07
