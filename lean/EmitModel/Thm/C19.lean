/-
  Thm/C19.lean — property C19: captured values keep their type and structure from call site to sink.
  Property theorems about Model/Capture.lean (the functions the driver of stream `c19` executes).

  PARTIAL by design (DESIGN.md §7.19): the theorems are about emit's own dispatch (which hook a key / attribute
  selects, what each capture trait does with which type, `#[emit::optional]`, buffering and the ambient
  context's typed fast path) and about path-invariance, GIVEN the table `Cap.cast / toDisplay / toDebug / serdeJson /
  svalJson / chain / tid` that states value_bag's behaviour. The table itself is sampled by the correspondence,
  not proved. Helper lemmas, and `display_inspect_is_default`, live in Lemmas/Capture.lean.

  OBLIGATIONS (audited by `check` with `#print axioms`):
    default_hook_unless_well_known, well_known_hooks, attribute_overrides_key,
    default_typed_roundtrip_int, default_typed_roundtrip, default_displays_display_text,
    display_inspect_is_default, display_exact, debug_exact, display_debug_exact, debug_inspect_exact,
    structured_same_tokens_serde, structured_same_tokens_sval_partial, structured_same_tokens_partial,
    sval_nested_seq_serde_malformed, structured_inspect_primitive,
    optional_none_absent, optional_some_is_plain, error_chain_kept, error_chain_lost_when_shared,
    read_path_invariant, read_path_invariant_values, read_path_invariant_sval, downcast_along_paths,
    capture_idByDisplay,
    sink_term_error_chain, sink_otlp_int_exact, sink_otlp_structure_preserved   (the "via each sink" clause; streams
    `c13_term` / `c13_otlp` are shared with C13, whose models of the sinks these theorems are about)
-/
import EmitModel.Model.Capture
import EmitModel.Lemmas.Capture
import EmitModel.Model.Term
import EmitModel.Lemmas.EncodeOtlp

namespace EmitModel.C19
open EmitModel.Capture

/-! ### Hook selection (emit's macro logic) -/

/-- Only the five well-known keys leave the default hook. -/
theorem default_hook_unless_well_known (key : String)
    (h : key ≠ "lvl" ∧ key ≠ "err" ∧ key ≠ "span_id" ∧ key ≠ "span_parent" ∧ key ≠ "trace_id") :
    hookFor key none = .default := by
  obtain ⟨h1, h2, h3, h4, h5⟩ := h
  simp [hookFor, defaultHook, h1, h2, h3, h4, h5]

theorem well_known_hooks :
    hookFor "lvl" none = .level ∧ hookFor "err" none = .error ∧ hookFor "span_id" none = .spanId ∧
    hookFor "span_parent" none = .spanId ∧ hookFor "trace_id" none = .traceId := by decide

/-- A capture attribute wins over the key name. -/
theorem attribute_overrides_key (key : String) (a : Attr) :
    hookFor key (some a) = hookFor "k" (some a) := by
  cases a <;> rfl

/-! ### 6. read paths: direct = erased = owned = shared = via the ambient context = on another thread

Numbered by the clauses of the property statement. Proved first: every "on every read path" clause below is the capture
equation of its hook, a fact about the captured value read in place, and one of these theorems. -/

/-- READ-PATH INVARIANCE. Whatever was captured (`IdByDisplay` excludes only an id captured through
    `as_debug/as_sval/as_serde(inspect: true)`), every surviving observation (`Survives`: all typed pulls,
    Display, Debug, serde_json, sval_json, null-ness — but not `downcast_ref`, not an ERROR's chain or Display, not
    `&str` out of an unbuffered sval capture) is the same whether the property is read in place, through `&dyn ErasedProps`,
    through an erased event, as the event the emitter receives, after `to_owned`, after `to_shared`, on another thread,
    or after being buffered in (nested frames of) the ambient context on this or another thread. -/
theorem read_path_invariant (p : Path) (c : Cap) (o : ObsKind) (hid : IdByDisplay c) (h : Survives o c) :
    observe o (readVia p c) = observe o c := by
  cases p with
  | direct | erased | event | emit => rfl
  | owned | ownedThread => exact observe_toOwned o c h
  | shared => exact observe_toShared o c h
  | _ => exact observe_ctxtStore o c hid h

/-- What `downcast_ref` answers along each path: kept where the value is only borrowed or erased, gone once
    buffered, and — the ambient context's typed fast path (src/platform/thread_local_ctxt.rs:70-84) — kept for trace
    and span ids through the context. -/
theorem downcast_along_paths (p : Path) (c : Cap) :
    (readVia p c).tid =
      match p with
      | .direct | .erased | .event | .emit => c.tid
      | .owned | .ownedThread | .shared => .no
      | _ => match c.tid with
        | .trace n => .trace n
        | .span n => .span n
        | _ => .no := by
  have ho : (toOwned c).tid = .no := by cases c <;> rfl
  have hs : (toShared c).tid = .no := by cases c <;> rfl
  have hc : (ctxtStore c).tid = match c.tid with
      | .trace n => .trace n
      | .span n => .span n
      | _ => .no := by
    unfold ctxtStore
    cases c.tid <;> first | rfl | exact hs
  cases p with
  | direct | erased | event | emit => rfl
  | owned | ownedThread => exact ho
  | shared => exact hs
  | _ => exact hc

def isPlainValue : Cap → Bool
  | .signed _ | .unsigned _ | .bigSigned _ | .bigUnsigned _ | .float _ | .bool _ | .char _ _ | .str _ _ | .empty => true
  | .serde _ _ .no => true
  | .sval _ true .no => true
  | _ => false

theorem plain_facts (c : Cap) (h : isPlainValue c = true) :
    c.tid = .no ∧ isErrorCap c = false ∧ isUnbufferedSval c = false := by
  cases c with
  | sval _ b t => cases b <;> cases t <;> first | contradiction | exact ⟨rfl, rfl, rfl⟩
  | serde _ _ t => cases t <;> first | contradiction | exact ⟨rfl, rfl, rfl⟩
  | _ => first | contradiction | exact ⟨rfl, rfl, rfl⟩

/-- Numbers, booleans, strings (and chars, nulls) and serde-captured or already buffered structured values: EVERY
    observation survives every path, `downcast_ref` included (it answers `None` throughout). -/
theorem read_path_invariant_values (p : Path) (c : Cap) (o : ObsKind) (hc : isPlainValue c = true) :
    observe o (readVia p c) = observe o c := by
  obtain ⟨ht, he, hs⟩ := plain_facts c hc
  by_cases hd : o = .downcast
  · subst hd
    show Res.tid (readVia p c).tid = .tid c.tid
    rw [downcast_along_paths, ht]
    cases p <;> rfl
  · exact read_path_invariant p c o (idByDisplay_of_tid_no c ht) ⟨hd, (fun h => nomatch he.symm.trans h), (fun h => nomatch hs.symm.trans h)⟩

/-- An sval-captured structure that has not been buffered yet differs only in `pull::<&str>`. -/
theorem read_path_invariant_sval (p : Path) (v : V) (o : ObsKind) (ho : o ≠ .pullBorrowedStr) :
    observe o (readVia p (.sval v false .no)) = observe o (.sval v false .no) := by
  by_cases hd : o = .downcast
  · subst hd; cases p <;> rfl
  · exact read_path_invariant p _ o trivial ⟨hd, nofun, fun _ => ho⟩

theorem readVia_text (p : Path) (c : Cap) (hid : IdByDisplay c) (he : isErrorCap c = false) :
    (readVia p c).toDisplay = c.toDisplay ∧ (readVia p c).toDebug = c.toDebug ∧
    (readVia p c).serdeJson = c.serdeJson ∧ (readVia p c).svalJson = c.svalJson := by
  have hs (o : ObsKind) (hd : o ≠ .downcast) (hb : o ≠ .pullBorrowedStr) : Survives o c :=
    ⟨hd, (fun h => nomatch he.symm.trans h), fun _ => hb⟩
  exact ⟨Res.s.inj (read_path_invariant p c .display hid (hs _ nofun nofun)),
    Res.s.inj (read_path_invariant p c .debug hid (hs _ nofun nofun)),
    Res.t.inj (read_path_invariant p c .serdeJson hid (hs _ nofun nofun)),
    Res.t.inj (read_path_invariant p c .svalJson hid (hs _ nofun nofun))⟩

/-- Every capture hook yields ids that satisfy `IdByDisplay`, except the three inspecting non-Display hooks — so
    `read_path_invariant` applies to everything those hooks capture. -/
theorem capture_idByDisplay (hk : Hook) (v : V) (c : Cap) (h : captureWith hk v = some (some c))
    (hh : hk ≠ .debug true ∧ hk ≠ .sval true ∧ hk ≠ .serde true) : IdByDisplay c := by
  by_cases hs : ∃ s d, v = .str false s d
  · obtain ⟨s, d, rfl⟩ := hs
    rw [captureWith_str] at h
    cases h; trivial
  obtain ⟨hdisplay, hdebug, hsval, hserde⟩ := captureWith_anon v hs
  match hk, h, hh with
  | .debug true, _, hh | .sval true, _, hh | .serde true, _, hh => simp at hh
  -- the `Any`-bounded Display hook: a primitive (no id), or the Display capture of `v` with `v`'s own id
  | .default, h, _ | .display true, h, _ =>
    simp only [display_inspect_is_default, captureWith_default, Option.map_eq_some_iff] at h
    obtain ⟨t, ht, hc⟩ := h
    cases hc
    cases hp : tryCapture v with
    | none => exact display_idByDisplay v t ht
    | some c' => exact idByDisplay_of_tid_no c' (tryCapture_no_tid_no_error v c' hp).1
  | .display false, h, _ | .debug false, h, _ =>
    simp only [hdisplay, hdebug, Option.map_eq_some_iff] at h
    obtain ⟨t, _, hc⟩ := h
    cases hc; trivial
  | .sval false, h, _ | .serde false, h, _ =>
    simp only [hsval, hserde] at h
    split at h <;> cases h
    trivial
  | .value i, h, _ =>
    obtain ⟨c', hc', hc⟩ := Option.map_eq_some_iff.1 (show (toValue? v).map some = _ from h)
    cases hc
    exact toValue_idByDisplay v _ hc'
  -- the hooks of the well-known keys list their types: each arm is a string, an integer or the id's Display capture
  | .error, h, _ | .level, h, _ | .spanId, h, _ | .traceId, h, _ =>
    simp only [captureWith] at h
    split at h <;> cases h <;> trivial

/-! ### 1. default: numbers, booleans and strings can be pulled back as the same typed value -/

/-- An integer of any Rust integer type, captured with the default hook, pulls back as the same value of that type
    (and of every wider type) — on every read path. -/
theorem default_typed_roundtrip_int (t : IntTy) (i : Int) (h : t.inRange i = true) (p : Path) :
    ∃ c, captureWith .default (.int t i) = some (some c) ∧ (readVia p c).cast.toInt t = some i ∧
      ∀ t', t'.inRange i = true → (readVia p c).cast.toInt t' = some i := by
  obtain ⟨c, hc, hk, hi, _⟩ := primLeaf_int t i h
  have hr : (readVia p c).cast.int? = some i := by rw [readVia_int p c hk, hi]
  refine ⟨c, ?_, toInt_of_int t _ i hr h, fun t' h' => toInt_of_int t' _ i hr h'⟩
  rw [captureWith_default, show tryCapture (.int t i) = some c from hc]; rfl

/-- Booleans, floats (an `f32` as the `f64` it widens to) and strings (`&str` and `String`): the same typed value
    comes back, on every read path; a string also displays as itself. -/
theorem default_typed_roundtrip (p : Path) :
    (∀ b, ∃ c, captureWith .default (.bool b) = some (some c) ∧ (readVia p c).cast.toBool = some b) ∧
    (∀ x, ∃ c, captureWith .default (.f64 x) = some (some c) ∧ (readVia p c).cast.toF64 = some x.bits) ∧
    (∀ x w, ∃ c, captureWith .default (.f32 x w) = some (some c) ∧ (readVia p c).cast.toF64 = some w.bits) ∧
    (∀ o s d, ∃ c, captureWith .default (.str o s d) = some (some c) ∧
      (readVia p c).cast.toStr = some s ∧ (readVia p c).cast.toBorrowedStr = some s ∧
      (readVia p c).toDisplay = some s) := by
  have hp (c : Cap) (hc : isPlainValue c = true) (o : ObsKind) := read_path_invariant_values p c o hc
  refine ⟨fun b => ⟨.bool b, rfl, Res.b.inj (hp _ rfl .pullBool)⟩, fun x => ⟨.float x, rfl, Res.n.inj (hp _ rfl .pullF64)⟩,
    fun x w => ⟨.float w, rfl, Res.n.inj (hp _ rfl .pullF64)⟩, fun o s d => ⟨.str s d, ?_, Res.s.inj (hp _ rfl .pullStr),
      Res.s.inj (hp _ rfl .pullBorrowedStr), Res.s.inj (hp _ rfl .display)⟩⟩
  cases o <;> rfl

/-- … and anything else (indeed everything but an `f32`, which is captured as the `f64` it widens to; an integer being
    in the range of its type, `hr`) displays as its Display text — on every read path. -/
theorem default_displays_display_text (v : V) (t : String) (h : v.display? = some t)
    (hf : ∀ x w, v ≠ .f32 x w) (hr : ∀ ty i, v = .int ty i → ty.inRange i = true) (p : Path) :
    ∃ c, captureWith .default v = some (some c) ∧ (readVia p c).toDisplay = some t := by
  rw [captureWith_default, h]
  refine ⟨_, rfl, ?_⟩
  cases hc : tryCapture v with
  | none => exact (readVia_text p _ (display_idByDisplay v t h) rfl).1
  | some c =>
    -- a primitive: `tryCapture v = primLeaf? v`, since an `Option` has no Display
    have hl : primLeaf? v = some c := by
      cases v <;> first | exact hc | cases h
    obtain ⟨ht, he⟩ := tryCapture_no_tid_no_error v c hc
    exact (readVia_text p c (idByDisplay_of_tid_no c ht) he).1.trans ((primLeaf_text v c hl hf hr true).1.trans h)

/-! ### 2. display / debug modes give exactly the corresponding formatting -/

/-- `#[emit::as_display]`: `to_string()` of the captured value is the value's Display text, serializers see that
    text as a string — on every read path. -/
theorem display_exact (v : V) (t : String) (h : v.display? = some t) (p : Path) :
    ∃ c, captureWith (.display false) v = some (some c) ∧ (readVia p c).toDisplay = some t ∧
      (readVia p c).serdeJson = jsonStr t ∧ (readVia p c).svalJson = jsonStr t := by
  by_cases hs : ∃ s d, v = .str false s d
  · obtain ⟨s, d, rfl⟩ := hs
    cases h
    obtain ⟨h1, _, h3, h4⟩ := readVia_text p (.str _ d) trivial rfl
    exact ⟨_, rfl, h1, h3, h4⟩
  · obtain ⟨h1, _, h3, h4⟩ := readVia_text p (.display t .no) trivial rfl
    exact ⟨_, by rw [(captureWith_anon v hs).1, h]; rfl, h1, h3, h4⟩

/-- `#[emit::as_debug]`: `{:?}` of the captured value is the value's Debug text on every read path; and unless the
    value is a `&str` (which stays a string: src/macro_hooks.rs:151-155) `to_string()` and the string seen by
    serializers are that Debug text too. -/
theorem debug_exact (v : V) (t : String) (h : v.debug? = some t) (p : Path) :
    ∃ c, captureWith (.debug false) v = some (some c) ∧ (readVia p c).toDebug = some t ∧
      ((∀ s d, v ≠ .str false s d) →
        (readVia p c).toDisplay = some t ∧ (readVia p c).serdeJson = jsonStr t ∧ (readVia p c).svalJson = jsonStr t) := by
  by_cases hs : ∃ s d, v = .str false s d
  · obtain ⟨s, d, rfl⟩ := hs
    cases h
    exact ⟨_, rfl, (readVia_text p (.str s _) trivial rfl).2.1, fun hn => absurd rfl (hn s _)⟩
  · obtain ⟨h1, h2, h3, h4⟩ := readVia_text p (.debug t .no) trivial rfl
    exact ⟨_, by rw [(captureWith_anon v hs).2.1, h]; rfl, h2, fun _ => ⟨h1, h3, h4⟩⟩

/-- DESIGN §7.19 `display_debug_exact`: both modes give exactly the corresponding formatting, on every read path. -/
theorem display_debug_exact (v : V) (t : String) (p : Path) :
    (v.display? = some t → ∃ c, captureWith (.display false) v = some (some c) ∧ (readVia p c).toDisplay = some t) ∧
    (v.debug? = some t → ∃ c, captureWith (.debug false) v = some (some c) ∧ (readVia p c).toDebug = some t) :=
  ⟨fun h => let ⟨c, hc, hd, _⟩ := display_exact v t h p; ⟨c, hc, hd⟩,
   fun h => let ⟨c, hc, hd, _⟩ := debug_exact v t h p; ⟨c, hc, hd⟩⟩

/-- With `inspect: true` a value outside value_bag's primitive table is still captured through `Debug`
    (ids keep their type for `downcast_ref`; they are excluded here because the ambient context then stores the id
    itself). -/
theorem debug_inspect_exact (v : V) (t : String) (h : v.debug? = some t) (hp : tryCapture v = none)
    (hid : v.tid = .no) (p : Path) :
    ∃ c, captureWith (.debug true) v = some (some c) ∧ (readVia p c).toDebug = some t :=
  ⟨.debug t .no, by rw [captureWith_debug_inspect, h, hp, hid]; rfl, (readVia_text p (.debug t .no) trivial rfl).2.1⟩

/-! ### 3. serde / sval modes: any serializer sees what the original value would have produced -/

/-- Captured with `#[emit::as_serde]`: serde_json AND sval_json of the captured value are exactly what they produce
    for the original value — on every read path (buffered by serde_buf, shared, through the ambient context, on
    another thread). -/
theorem structured_same_tokens_serde (v : V) (h : v.hasSerde = true) (p : Path) :
    ∃ c, captureWith (.serde false) v = some (some c) ∧
      (readVia p c).serdeJson = v.directJson .serde ∧ (readVia p c).svalJson = v.directJson .sval := by
  by_cases hs : ∃ s d, v = .str false s d
  · obtain ⟨s, d, rfl⟩ := hs
    exact ⟨.str s d, rfl, (readVia_text p (.str s d) trivial rfl).2.2⟩
  · exact ⟨_, by rw [(captureWith_anon v hs).2.2.2, if_pos h],
      (readVia_text p (.serde v false .no) trivial rfl).2.2⟩

/-- FULL STATEMENT (what the property asks, and what fails): the same for `#[emit::as_sval]` without any hypothesis.
    PROVED: sval_json always sees the original structure; serde_json sees it unless a non-empty sequence sits below
    the root (`V.nestedSeq`, finding `sval-nested-seq-via-serde`, third-party). -/
theorem structured_same_tokens_sval_partial (v : V) (h : v.hasSval = true) (p : Path) :
    ∃ c, captureWith (.sval false) v = some (some c) ∧
      (readVia p c).svalJson = v.directJson .sval ∧
      (v.nestedSeq = false → (readVia p c).serdeJson = v.directJson .serde) := by
  by_cases hs : ∃ s d, v = .str false s d
  · obtain ⟨s, d, rfl⟩ := hs
    obtain ⟨_, _, h3, h4⟩ := readVia_text p (.str s d) trivial rfl
    exact ⟨.str s d, rfl, h4, fun _ => h3⟩
  · obtain ⟨_, _, h3, h4⟩ := readVia_text p (.sval v false .no) trivial rfl
    exact ⟨_, by rw [(captureWith_anon v hs).2.2.1, if_pos h], h4,
      fun hn => h3.trans (json_broken_eq .serde v true hn)⟩

/-- DESIGN §7.19 `structured_same_tokens`, as far as it holds: whichever framework captured the value, on every
    read path, sval_json sees what it produces for the original, and so does serde_json — unless sval captured it
    and a non-empty sequence sits below the root. -/
theorem structured_same_tokens_partial (v : V) (hs : v.hasSerde = true) (hv : v.hasSval = true) (p : Path)
    (attr : Bool) (hd : attr = false → v.nestedSeq = false) :
    ∃ c, captureWith (if attr then .serde false else .sval false) v = some (some c) ∧
      (readVia p c).serdeJson = v.directJson .serde ∧ (readVia p c).svalJson = v.directJson .sval := by
  cases attr with
  | true => exact structured_same_tokens_serde v hs p
  | false =>
    obtain ⟨c, hc, hsv, hsj⟩ := structured_same_tokens_sval_partial v hv p
    exact ⟨c, hc, hsj (hd rfl), hsv⟩

/-- The counterexample inside the excluded region, as the model (and the real code) computes it: `vec![vec![1u8]]`
    captured with `#[emit::as_sval]` reaches serde_json as `[[],1]]`; captured with `#[emit::as_serde]` as `[[1]]`. -/
theorem sval_nested_seq_serde_malformed :
    (captureWith (.sval false) (.seq [.seq [.int .u8 1]])).map (Option.map Cap.serdeJson) = some (some "[[],1]]") ∧
    (captureWith (.serde false) (.seq [.seq [.int .u8 1]])).map (Option.map Cap.serdeJson) = some (some "[[1]]") ∧
    V.directJson .serde (.seq [.seq [.int .u8 1]]) = "[[1]]" := by
  refine ⟨?_, ?_, ?_⟩ <;> decide

/-- `inspect: true` on a primitive (or an `Option` of one) captures the primitive itself (`tryCapture`, which the
    inspecting hooks try first; the statement is about its result); apart from an `f32`
    (captured as the `f64` it widens to, whose shortest text differs) serializers still see the original's output. -/
theorem structured_inspect_primitive (v : V) (c : Cap) (h : tryCapture v = some c)
    (hf : ∀ x w, v ≠ .f32 x w ∧ v ≠ .optSome (.f32 x w))
    (hr : ∀ ty i, (v = .int ty i ∨ v = .optSome (.int ty i)) → ty.inRange i = true) :
    c.serdeJson = v.directJson .serde ∧ c.svalJson = v.directJson .sval := by
  -- `Option` is transparent to both JSON writers, so all three arms of `tryCapture` are `primLeaf_text`
  unfold tryCapture at h
  split at h
  · cases h; exact ⟨rfl, rfl⟩
  · exact (primLeaf_text _ c h (fun x w hv => (hf x w).2 (hv ▸ rfl)) (fun ty i hv => hr ty i (.inr (hv ▸ rfl))) false).2
  · exact (primLeaf_text v c h (fun x w => (hf x w).1) (fun ty i hv => hr ty i (.inl hv)) true).2

/-! ### 4. error mode preserves the source chain -/

/-- The `err` key (or `#[emit::as_error]`) captures an error so that consumers get the error back with its whole
    `source()` chain, and `to_string()` shows the error with its root cause — read directly, through an erased event,
    and after `to_owned`. -/
theorem error_chain_kept (chain : List String) (d : String) (p : Path) (hp : p.unshared = true) :
    hookFor "err" none = .error ∧
    ∃ c, captureWith .error (.err chain d) = some (some c) ∧ (readVia p c).chain = some chain ∧
      (readVia p c).toDisplay = some (match chain with
        | [] => ""
        | [e] => e
        | e :: rest => e ++ " (" ++ rest.getLast?.getD "" ++ ")") := by
  -- an unshared path hands out the error capture itself, whose Display is this very `match`
  have hr : readVia p (.error chain) = .error chain := by cases p <;> first | rfl | cases hp
  refine ⟨by decide, .error chain, rfl, ?_⟩
  rw [hr]
  refine ⟨rfl, ?_⟩
  cases chain with
  | nil => rfl
  | cons e rest => cases rest <;> rfl

/-- What the table says about the remaining paths (not promised by the property, which lists numbers, booleans,
    strings and structured values as surviving buffering): behind `to_shared` — hence in the ambient context —
    value_bag no longer hands the error out (vb:internal/error.rs:29-36), so the chain is gone and only the error's
    own message is displayed. -/
theorem error_chain_lost_when_shared (chain : List String) (p : Path) (hp : p.unshared = false) :
    (readVia p (.error chain)).chain = none ∧ (readVia p (.error chain)).toDisplay = some (chain.head?.getD "") := by
  have hr : readVia p (.error chain) = .sharedError chain := by cases p <;> first | rfl | cases hp
  rw [hr]
  exact ⟨rfl, rfl⟩

/-! ### 5. `#[emit::optional]`: `None` contributes no property at all -/

/-- Whatever the key, the attribute and the type: the `None` form never yields a value, and the slot it leaves in
    the macro's props is invisible to enumeration and lookup. -/
theorem optional_none_absent (key : String) (attr : Option Attr) (v : V) :
    (∀ c, captureSite key attr .none v ≠ some (some c)) ∧
    (∀ slot, captureSite key attr .none v = some slot →
      Slots.forEach [(key, slot)] = [] ∧ Slots.get [(key, slot)] key = none) := by
  constructor
  · intro c h
    simp only [captureSite] at h
    cases hcw : captureWith (hookFor key attr) v <;> simp [hcw] at h
  · intro slot h
    simp only [captureSite] at h
    cases hcw : captureWith (hookFor key attr) v <;> simp [hcw] at h
    subst h
    simp [Slots.forEach, Slots.get]

/-- `Some(&v)` under `#[emit::optional]` is captured exactly like `v` itself. -/
theorem optional_some_is_plain (key : String) (attr : Option Attr) (v : V) :
    captureSite key attr .some v = captureSite key attr .plain v := rfl

/-! ### Non-vacuity: concrete values meeting the hypotheses, evaluated by the very functions the driver runs -/

-- the f64 1.0: its bit pattern and the texts the formatters give it
private def f1 : F := ⟨4607182418800017408, "1", "1.0", "1.0", "1.0"⟩
private def sample : V :=
  .record "Rec2" [("a", .optSome (.int .i64 (-3))), ("b", .map [(.str true "k" "\"k\"", .nvar "New" (.f64 f1))])]
private def sampleSeq : V := .record "Rec2" [("a", .ustruct "UnitS"), ("b", .seq [.int .u8 1, .int .u8 2])]

example : IntTy.u8.inRange 200 = true ∧ IntTy.i8.inRange 200 = false := by decide +kernel
example : captureSite "k" none .plain (.int .u8 200) = some (some (.unsigned 200)) := rfl
example : captureSite "k" (some (.debug false)) .none (.str true "x" "\"x\"") = some none := rfl
example : observe .pullI64 (readVia .ctxtThread (.unsigned 200)) = .i (some 200) := by decide +kernel
example : observe .pullU8 (readVia .owned (.signed 300)) = .i none := by decide +kernel
-- the bit pattern of -2.0
example : observe .pullF64 (.signed (-2)) = .n (some 13835058055282163712) := by decide +kernel
example : sample.hasSerde = true ∧ sample.nestedSeq = false := by decide +kernel
example : sample.directJson .serde = "{\"a\":-3,\"b\":{\"k\":{\"New\":1.0}}}" := by decide +kernel
example : (Cap.sval sample false .no).serdeJson = sample.directJson .serde := by decide +kernel
example : (readVia .emitCtxt (Cap.serde sample false .no)).svalJson = sample.directJson .sval := by decide +kernel
-- the excluded region is inhabited, and differs only there
example : sampleSeq.nestedSeq = true ∧ sampleSeq.directJson .serde = "{\"a\":null,\"b\":[1,2]}" ∧
    (Cap.sval sampleSeq false .no).serdeJson = "{\"a\":null,\"b\":[],1,2]}" ∧
    (Cap.sval sampleSeq false .no).svalJson = "{\"a\":\"UnitS\",\"b\":[1,2]}" := by decide +kernel
example : sample.debug? = some "Rec2 { a: Some(-3), b: {\"k\": New(1.0)} }" := by decide +kernel
example : (V.err ["outer", "mid", "root"] "E").display? = some "outer" := rfl
example : (readVia .owned (.error ["outer", "mid", "root"])).toDisplay = some "outer (root)" := by decide +kernel
example : (readVia .ctxtPush (.error ["outer", "mid", "root"])).chain = none := by decide +kernel
-- the ambient context's typed fast path
example : (readVia .ctxtRoot (.display (traceIdText 255) (.trace 255))).tid = .trace 255 := by decide +kernel
example : (readVia .shared (.display (traceIdText 255) (.trace 255))).tid = .no := by decide +kernel
example : IdByDisplay (.display (traceIdText 255) (.trace 255)) := rfl
example : Survives .serdeJson (.error ["e"]) ∧ ¬ Survives .chain (.error ["e"]) := by
  constructor
  · exact ⟨by decide, fun _ => ⟨by decide, by decide⟩, fun h => by simp [isUnbufferedSval] at h⟩
  · intro h; exact (h.2.1 rfl).1 rfl

/-! ### Via each sink (the sink models of C13: Model/Term.lean, Model/AnyValue.lean) -/

section Sinks
open EmitModel.Encode

/-- the `err:` / `caused by:` block the terminal writer prints for a captured error -/
def errBlock (top : String) (causes : List String) : String :=
  "  err: " ++ top ++ "\n" ++ String.join (causes.map fun c => "  caused by: " ++ c ++ "\n")

/-- The terminal writer ends an event whose `err` property is an error with the `err:` / `caused by:` block of its
    whole chain. (`hm`: for a `metric_value` that is a sequence the writer appends a sparkline after the block, or
    fails — the case the statement leaves out.) -/
theorem sink_term_error_chain (e : Event) (x : Enc String) (top : String) (causes : List String)
    (h : termOutput e = some x)
    (he : (lookupFirst "err" e.props).bind PV.error? = some (top, causes))
    (hm : ∀ mv, lookupFirst "metric_value" e.props = some mv → ∀ bs, seqView mv ≠ .seq bs) :
    ∃ pre, x = .ok (pre ++ errBlock top causes) := by
  unfold termOutput at h
  simp only [he] at h
  split at h
  · cases h; exact ⟨_, rfl⟩
  · rename_i mv hmv
    split at h
    · cases h
    · cases h; exact ⟨_, rfl⟩
    · cases h; exact ⟨_, rfl⟩
    · rename_i bs _ hsv
      exact absurd hsv (hm mv hmv _)

/-- every integer, of any width and sign, reaches the OTLP sink exactly: as an `intValue` when it fits 64 signed
    bits, otherwise as its exact decimal text — never rounded through a double -/
theorem sink_otlp_int_exact (i : Int) :
    anyValue (.int i) = .ok (if inI64 i then .int i else .str (toString i)) := by
  cases h : inI64 i <;> simp [anyValue, h]

/-- structured values reach the OTLP sink with their structure (`structure_preserved_value`, the fact `C13.structure_preserved` states) -/
theorem sink_otlp_structure_preserved (a : AnyValue) (h : IntsFit a) : anyValue (embed a) = .ok a :=
  structure_preserved_value a h

example : anyValue (.int 18446744073709551615) = .ok (.str "18446744073709551615") := by rfl
end Sinks

end EmitModel.C19
