/-
  Base/Sched.lean — labelled transition systems and "all interleavings" as "all label lists".

  A concurrent component is modelled by `step : σ → λ → Option σ` whose labels are its *atomic* steps
  (critical sections under a lock, await points, environment actions). `none` = the label is not enabled.
  An execution is a list of labels; since the list is ARBITRARY, a statement over `Reachable` quantifies over
  every interleaving of every number of operations of every thread, every outcome and every fault the labels
  can carry. No scheduler, fairness or bound appears anywhere.

  Safety is induction over the label list. Bounded liveness is a ranking function: if the labels selected by
  `isRx` strictly decrease `rank` and all other labels do not increase it (both only while the goal is not yet
  reached), then every execution containing more than `rank s` selected labels ends in the goal. No fairness
  axiom: the bound counts the selected steps that actually occur in the execution.

  Import-free (the models that use it are linked into the driver executable).
-/
namespace EmitModel.Sched

universe u v
variable {σ : Type u} {lab : Type v}

/-- Execute a label list from `s`; `none` as soon as a label is not enabled. -/
def run (step : σ → lab → Option σ) : σ → List lab → Option σ
  | s, [] => some s
  | s, l :: ls => match step s l with
    | none => none
    | some s' => run step s' ls

@[simp] theorem run_nil (step : σ → lab → Option σ) (s : σ) : run step s [] = some s := rfl

theorem run_cons (step : σ → lab → Option σ) (s : σ) (l : lab) (ls : List lab) :
    run step s (l :: ls) = (step s l).bind fun s' => run step s' ls := by
  simp only [run]; cases step s l <;> rfl

theorem run_cons_eq_some {step : σ → lab → Option σ} {s s' : σ} {l : lab} {ls : List lab} :
    run step s (l :: ls) = some s' ↔ ∃ s1, step s l = some s1 ∧ run step s1 ls = some s' := by
  rw [run_cons]; exact Option.bind_eq_some_iff

theorem run_append (step : σ → lab → Option σ) (s : σ) (as bs : List lab) :
    run step s (as ++ bs) = (run step s as).bind fun s' => run step s' bs := by
  induction as generalizing s with
  | nil => rfl
  | cons a as ih => rw [List.cons_append, run_cons, run_cons, Option.bind_assoc]; exact congrArg _ (funext ih)

/-- `s` is reachable from `init` by SOME label list — i.e. under some interleaving; a theorem
    `∀ s, Reachable step init s → P s` therefore covers every interleaving. -/
def Reachable (step : σ → lab → Option σ) (init : σ) (s : σ) : Prop :=
  ∃ ls : List lab, run step init ls = some s

theorem Reachable.init (step : σ → lab → Option σ) (init : σ) : Reachable step init init := ⟨[], rfl⟩

theorem Reachable.run {step : σ → lab → Option σ} {init s s' : σ} {ls : List lab}
    (h : Reachable step init s) (hs : Sched.run step s ls = some s') : Reachable step init s' := by
  obtain ⟨ls0, hls0⟩ := h
  exact ⟨ls0 ++ ls, by rw [run_append, hls0]; exact hs⟩

theorem Reachable.step {step : σ → lab → Option σ} {init s s' : σ} {l : lab}
    (h : Reachable step init s) (hs : step s l = some s') : Reachable step init s' :=
  h.run (ls := [l]) (run_cons_eq_some.mpr ⟨s', hs, rfl⟩)

theorem run_invariant_of {step : σ → lab → Option σ} {Inv : σ → Prop} {P : lab → Prop}
    (hstep : ∀ s l s', P l → Inv s → step s l = some s' → Inv s') :
    ∀ (ls : List lab) (s s' : σ), (∀ l ∈ ls, P l) → Inv s → run step s ls = some s' → Inv s' := by
  intro ls
  induction ls with
  | nil => intro s s' _ hi h; cases h; exact hi
  | cons l ls ih =>
    intro s s' hl hi h
    obtain ⟨s1, hs, h⟩ := run_cons_eq_some.mp h
    exact ih s1 s' (fun l' hl' => hl l' (.tail _ hl')) (hstep s l s1 (hl l (.head _)) hi hs) h

theorem run_invariant {step : σ → lab → Option σ} {Inv : σ → Prop}
    (hstep : ∀ s l s', Inv s → step s l = some s' → Inv s') (ls : List lab) (s s' : σ) :
    Inv s → run step s ls = some s' → Inv s' :=
  run_invariant_of (P := fun _ => True) (fun s l s' _ => hstep s l s') ls s s' fun _ _ => trivial

/-- Safety: an inductive invariant holds in every reachable state (= under every interleaving). -/
theorem invariant_of_step {step : σ → lab → Option σ} {init : σ} {Inv : σ → Prop}
    (hinit : Inv init) (hstep : ∀ s l s', Inv s → step s l = some s' → Inv s') :
    ∀ s, Reachable step init s → Inv s := by
  rintro s ⟨ls, hls⟩
  exact run_invariant hstep ls init s hinit hls

/-- Number of labels of the execution selected by `isRx` (e.g. "steps of the receiver"). -/
def countSel (isRx : lab → Bool) (ls : List lab) : Nat := (ls.filter isRx).length

@[simp] theorem countSel_nil (isRx : lab → Bool) : countSel isRx [] = 0 := rfl

theorem countSel_cons (isRx : lab → Bool) (l : lab) (ls : List lab) :
    countSel isRx (l :: ls) = (if isRx l then 1 else 0) + countSel isRx ls := by
  unfold countSel
  by_cases h : isRx l <;> simp [List.filter, h] <;> omega

/-- Ranking-function lemma. `Inv` is an inductive invariant, `Goal` is stable; while the goal is not reached,
    selected labels strictly decrease `rank` and all other labels do not increase it. Then along every
    execution either the goal is reached or the selected labels consumed that much rank. -/
theorem progress_of_rank {step : σ → lab → Option σ} {Inv Goal : σ → Prop} {isRx : lab → Bool} {rank : σ → Nat}
    (hinv : ∀ s l s', Inv s → step s l = some s' → Inv s')
    (hstable : ∀ s l s', Inv s → Goal s → step s l = some s' → Goal s')
    (hsel : ∀ s l s', Inv s → ¬ Goal s → isRx l = true → step s l = some s' → Goal s' ∨ rank s' < rank s)
    (hoth : ∀ s l s', Inv s → ¬ Goal s → isRx l = false → step s l = some s' → Goal s' ∨ rank s' ≤ rank s) :
    ∀ (ls : List lab) (s s' : σ), Inv s → run step s ls = some s' →
      Goal s' ∨ rank s' + countSel isRx ls ≤ rank s := by
  have stays : ∀ ls s s', Inv s → Goal s → run step s ls = some s' → Goal s' := fun ls s s' hi hg h =>
    (run_invariant (Inv := fun t => Inv t ∧ Goal t)
      (fun a b c ⟨ia, ga⟩ st => ⟨hinv a b c ia st, hstable a b c ia ga st⟩) ls s s' ⟨hi, hg⟩ h).2
  intro ls
  induction ls with
  | nil => intro s s' _ h; cases h; exact .inr (Nat.le_refl _)
  | cons l ls ih =>
    intro s s' hi h
    obtain ⟨s1, hs, h⟩ := run_cons_eq_some.mp h
    have hi1 := hinv s l s1 hi hs
    by_cases hg : Goal s
    · exact .inl (stays (l :: ls) s s' hi hg (run_cons_eq_some.mpr ⟨s1, hs, h⟩))
    · rw [countSel_cons]
      have hl : Goal s1 ∨ rank s1 + (if isRx l then 1 else 0) ≤ rank s := by
        cases hl : isRx l
        · exact hoth s l s1 hi hg hl hs
        · exact (hsel s l s1 hi hg hl hs).imp_right fun lt => lt   -- `a < b` unfolds to `a + 1 ≤ b`
      rcases hl with g1 | le1
      · exact .inl (stays ls s1 s' hi1 g1 h)
      · exact (ih s1 s' hi1 h).imp_right fun le => by omega

/-- Bounded progress: an execution with more than `rank s` selected steps ends in the goal. -/
theorem progress_within {step : σ → lab → Option σ} {Inv Goal : σ → Prop} {isRx : lab → Bool} {rank : σ → Nat}
    (hinv : ∀ s l s', Inv s → step s l = some s' → Inv s')
    (hstable : ∀ s l s', Inv s → Goal s → step s l = some s' → Goal s')
    (hsel : ∀ s l s', Inv s → ¬ Goal s → isRx l = true → step s l = some s' → Goal s' ∨ rank s' < rank s)
    (hoth : ∀ s l s', Inv s → ¬ Goal s → isRx l = false → step s l = some s' → Goal s' ∨ rank s' ≤ rank s)
    (ls : List lab) (s s' : σ) (hi : Inv s) (h : run step s ls = some s')
    (hk : rank s < countSel isRx ls) : Goal s' := by
  rcases progress_of_rank hinv hstable hsel hoth ls s s' hi h with g | le
  · exact g
  · omega

/-- A composite execution projects onto a component's, with as many selected steps unless it ends `off`: a composite
    step that is not the component's must lead to a state that is `off` for good (a crash; any state at all, when only
    reachability is wanted). -/
theorem run_proj {τ : Type u} {lab' : Type v} {step : σ → lab → Option σ} {step' : τ → lab' → Option τ} {proj : σ → τ}
    {sel : lab → Bool} {sel' : lab' → Bool} {off : σ → Prop}
    (hsim : ∀ s l s', step s l = some s' →
      (∃ l', step' (proj s) l' = some (proj s') ∧ sel' l' = sel l) ∨ (proj s' = proj s ∧ off s'))
    (hoff : ∀ s l s', off s → step s l = some s' → off s') :
    ∀ (ls : List lab) (s s' : σ), run step s ls = some s' →
      ∃ ls', run step' (proj s) ls' = some (proj s') ∧ (¬ off s' → countSel sel' ls' = countSel sel ls) := by
  intro ls
  induction ls with
  | nil => intro s s' h; cases h; exact ⟨[], rfl, fun _ => rfl⟩
  | cons l ls ih =>
    intro s s' h
    obtain ⟨s1, hs, h⟩ := run_cons_eq_some.mp h
    obtain ⟨ls', hr, hc⟩ := ih s1 s' h
    rcases hsim s l s1 hs with ⟨l', hl, hsel⟩ | ⟨hp, ho⟩
    · exact ⟨l' :: ls', run_cons_eq_some.mpr ⟨_, hl, hr⟩, fun hn => by rw [countSel_cons, countSel_cons, hc hn, hsel]⟩
    · exact ⟨ls', hp ▸ hr, fun hn => absurd (run_invariant hoff ls s1 s' ho h) hn⟩

theorem Reachable.proj {τ : Type u} {lab' : Type v} {step : σ → lab → Option σ} {step' : τ → lab' → Option τ}
    {proj : σ → τ} {init s : σ}
    (hsim : ∀ s l s', step s l = some s' → (∃ l', step' (proj s) l' = some (proj s')) ∨ proj s' = proj s)
    (h : Reachable step init s) : Reachable step' (proj init) (proj s) := by
  obtain ⟨ls, hls⟩ := h
  obtain ⟨ls', hr, _⟩ := run_proj (sel := fun _ => false) (sel' := fun _ => false) (off := fun _ => True)
    (fun s l s' hs => (hsim s l s' hs).imp (fun ⟨l', hl⟩ => ⟨l', hl, rfl⟩) fun hp => ⟨hp, trivial⟩)
    (fun _ _ _ _ _ => trivial) ls init s hls
  exact ⟨ls', hr⟩

end EmitModel.Sched
