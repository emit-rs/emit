/-
  Base/Assoc.lean — first-wins association lists (the meaning of `Props`: "when a key is duplicated the first
  value is the one to use") and sorted association lists modelling `BTreeMap` as emit uses it
  (`entry(k).or_insert(v)`, `insert(k, v)`, in-order iteration). Generic in key and value type; used by the model
  of `Props` (C01, C02), the encoders' de-duplication, the level path map (C17) and the file-set filesystem. At the
  end, two things on plain lists: `filterMap_sublist_map`, and `foldUntil`, the loop with `break` of Model/Props,
  with its lemmas.
-/
import Std

namespace EmitModel.Assoc
open Std

variable {κ ν : Type}

def keys (xs : List (κ × ν)) : List κ := xs.map Prod.fst

@[simp] theorem keys_nil : keys ([] : List (κ × ν)) = [] := rfl
@[simp] theorem keys_cons (a : κ × ν) (xs : List (κ × ν)) : keys (a :: xs) = a.1 :: keys xs := rfl
@[simp] theorem keys_append (xs ys : List (κ × ν)) : keys (xs ++ ys) = keys xs ++ keys ys := by
  simp [keys]

section lookup
variable [DecidableEq κ]

def lookupFirst (k : κ) : List (κ × ν) → Option ν
  | [] => none
  | (k', v) :: rest => if k' = k then some v else lookupFirst k rest

@[simp] theorem lookupFirst_nil (k : κ) : lookupFirst k ([] : List (κ × ν)) = none := rfl

theorem lookupFirst_cons (k k' : κ) (v : ν) (rest : List (κ × ν)) :
    lookupFirst k ((k', v) :: rest) = if k' = k then some v else lookupFirst k rest := rfl

theorem lookupFirst_eq_lookup (k : κ) (xs : List (κ × ν)) : lookupFirst k xs = xs.lookup k := by
  induction xs with
  | nil => rfl
  | cons a xs ih =>
    rw [lookupFirst, List.lookup_cons, ih]
    by_cases h : a.1 = k
    · simp [h]
    · rw [if_neg h, beq_false_of_ne (Ne.symm h)]

theorem lookupFirst_append (k : κ) (xs ys : List (κ × ν)) :
    lookupFirst k (xs ++ ys) = (lookupFirst k xs).or (lookupFirst k ys) := by
  simp only [lookupFirst_eq_lookup, List.lookup_append]

theorem lookupFirst_eq_none_iff (k : κ) (xs : List (κ × ν)) :
    lookupFirst k xs = none ↔ k ∉ keys xs := by
  rw [lookupFirst_eq_lookup, List.lookup_eq_none_iff]
  simp only [keys, List.mem_map, not_exists, not_and, bne_iff_ne]
  exact ⟨fun h p hp e => h p hp e.symm, fun h p hp e => h p hp e.symm⟩

theorem lookupFirst_isSome_iff (k : κ) (xs : List (κ × ν)) :
    (lookupFirst k xs).isSome = true ↔ k ∈ keys xs := by
  rw [← Decidable.not_iff_not]
  simp [← lookupFirst_eq_none_iff]

theorem lookupFirst_eq_some_of_mem {k : κ} {v : ν} {xs : List (κ × ν)} (hn : (keys xs).Nodup)
    (hm : (k, v) ∈ xs) : lookupFirst k xs = some v := by
  induction xs with
  | nil => simp at hm
  | cons a xs ih =>
    obtain ⟨k', v'⟩ := a
    simp only [keys_cons, List.nodup_cons] at hn
    rw [lookupFirst_cons]
    rcases List.mem_cons.1 hm with e | hm'
    · cases e; simp
    · have : k' ≠ k := by
        rintro rfl
        exact hn.1 (List.mem_map.2 ⟨(k', v), hm', rfl⟩)
      simp [this, ih hn.2 hm']

theorem mem_of_lookupFirst_eq_some {k : κ} {v : ν} {xs : List (κ × ν)} (h : lookupFirst k xs = some v) :
    (k, v) ∈ xs := by
  obtain ⟨pre, post, e, _⟩ := List.lookup_eq_some_iff.1 (lookupFirst_eq_lookup k xs ▸ h)
  simp [e]

/-- Lookup in a list with distinct keys is invariant under permutation (hash-map iteration order). -/
theorem lookupFirst_perm {xs ys : List (κ × ν)} (hp : xs.Perm ys) (hn : (keys xs).Nodup) (k : κ) :
    lookupFirst k xs = lookupFirst k ys := by
  have hn' : (keys ys).Nodup := (hp.map Prod.fst).nodup_iff.1 hn
  cases h : lookupFirst k xs with
  | some v =>
    exact (lookupFirst_eq_some_of_mem hn' (hp.mem_iff.1 (mem_of_lookupFirst_eq_some h))).symm
  | none =>
    symm
    rw [lookupFirst_eq_none_iff] at h ⊢
    intro hk; exact h ((hp.map Prod.fst).mem_iff.2 hk)

theorem mem_keys_iff_of_lookup_eq {xs ys : List (κ × ν)} (h : ∀ k, lookupFirst k xs = lookupFirst k ys) (k : κ) :
    k ∈ keys xs ↔ k ∈ keys ys := by
  rw [← lookupFirst_isSome_iff, ← lookupFirst_isSome_iff, h]

end lookup

section sorted
variable (cmp : κ → κ → Ordering)

/-- Strictly increasing keys (the in-order iteration of a `BTreeMap`). -/
def Sorted (xs : List (κ × ν)) : Prop := xs.Pairwise (fun a b => cmp a.1 b.1 = .lt)

/-- `map.entry(k).or_insert(v)`: keeps the existing value when the key is present. -/
def insertIfAbsent : List (κ × ν) → κ → ν → List (κ × ν)
  | [], k, v => [(k, v)]
  | (k', v') :: rest, k, v =>
    match cmp k' k with
    | .lt => (k', v') :: insertIfAbsent rest k v
    | .eq => (k', v') :: rest
    | .gt => (k, v) :: (k', v') :: rest

/-- `map.insert(k, v)`: replaces the value when the key is present (the old key is kept). -/
def insertOverwrite : List (κ × ν) → κ → ν → List (κ × ν)
  | [], k, v => [(k, v)]
  | (k', v') :: rest, k, v =>
    match cmp k' k with
    | .lt => (k', v') :: insertOverwrite rest k v
    | .eq => (k', v) :: rest
    | .gt => (k, v) :: (k', v') :: rest

/-- What `Dedup::for_each` collects from an enumeration: first value per key, in key order. -/
def collectFirst (xs : List (κ × ν)) : List (κ × ν) :=
  xs.foldl (fun m kv => insertIfAbsent cmp m kv.1 kv.2) []

/-- `BTreeMap::from_iter` / a sequence of `insert`s: last value per key, in key order. -/
def fromInserts (xs : List (κ × ν)) : List (κ × ν) :=
  xs.foldl (fun m kv => insertOverwrite cmp m kv.1 kv.2) []

variable {cmp}

theorem sorted_nil : Sorted cmp ([] : List (κ × ν)) := List.Pairwise.nil

theorem Sorted.nodup_keys [ReflCmp cmp] {xs : List (κ × ν)} (h : Sorted cmp xs) : (keys xs).Nodup := by
  unfold keys
  rw [List.nodup_iff_pairwise_ne, List.pairwise_map]
  refine List.Pairwise.imp ?_ h
  intro a b hab e
  rw [e, ReflCmp.compare_self (cmp := cmp)] at hab
  cases hab

theorem keys_insertIfAbsent [LawfulEqCmp cmp] (m : List (κ × ν)) (k : κ) (v : ν) (q : κ) :
    q ∈ keys (insertIfAbsent cmp m k v) ↔ q = k ∨ q ∈ keys m := by
  fun_induction insertIfAbsent cmp m k v with
  | case1 => simp
  | case2 k' v' rest k v hc ih => simp [ih]; grind
  | case3 k' v' rest k v hc => cases LawfulEqCmp.eq_of_compare hc; simp
  | case4 => simp

/-- Both insertions put the same keys in the same places; they differ in the value kept for a key already there. -/
theorem keys_insertOverwrite_eq (m : List (κ × ν)) (k : κ) (v : ν) :
    keys (insertOverwrite cmp m k v) = keys (insertIfAbsent cmp m k v) := by
  induction m with
  | nil => rfl
  | cons a m ih => simp only [insertOverwrite, insertIfAbsent]; split <;> simp [ih]

theorem keys_insertOverwrite [LawfulEqCmp cmp] (m : List (κ × ν)) (k : κ) (v : ν) (q : κ) :
    q ∈ keys (insertOverwrite cmp m k v) ↔ q = k ∨ q ∈ keys m := by
  rw [keys_insertOverwrite_eq]; exact keys_insertIfAbsent m k v q

theorem sorted_iff_keys (xs : List (κ × ν)) : Sorted cmp xs ↔ (keys xs).Pairwise (fun a b => cmp a b = .lt) := by
  simp [Sorted, keys, List.pairwise_map]

theorem sorted_insertIfAbsent [TransCmp cmp] [LawfulEqCmp cmp] {m : List (κ × ν)} (h : Sorted cmp m) (k : κ) (v : ν) :
    Sorted cmp (insertIfAbsent cmp m k v) := by
  fun_induction insertIfAbsent cmp m k v with
  | case1 => simp [Sorted]
  | case2 k' v' rest k v hc ih =>
    have h' := List.pairwise_cons.1 h
    refine List.pairwise_cons.2 ⟨?_, ih h'.2⟩
    intro b hb
    have hb' : b.1 ∈ keys (insertIfAbsent cmp rest k v) := List.mem_map.2 ⟨b, hb, rfl⟩
    rcases (keys_insertIfAbsent rest k v b.1).1 hb' with e | hm
    · rw [e]; exact hc
    · obtain ⟨c, hc', e⟩ := List.mem_map.1 hm
      rw [← e]; exact h'.1 c hc'
  | case3 => exact h
  | case4 k' v' rest k v hc =>
    have hlt : cmp k k' = .lt := OrientedCmp.lt_of_gt hc
    refine List.pairwise_cons.2 ⟨?_, h⟩
    intro b hb
    rcases List.mem_cons.1 hb with e | hb
    · rw [e]; exact hlt
    · exact TransCmp.lt_trans hlt ((List.pairwise_cons.1 h).1 b hb)

theorem sorted_insertOverwrite [TransCmp cmp] [LawfulEqCmp cmp] {m : List (κ × ν)} (h : Sorted cmp m) (k : κ) (v : ν) :
    Sorted cmp (insertOverwrite cmp m k v) := by
  rw [sorted_iff_keys, keys_insertOverwrite_eq, ← sorted_iff_keys]
  exact sorted_insertIfAbsent h k v

variable [DecidableEq κ]

theorem lookupFirst_eq_none_of_lt [TransCmp cmp] {m : List (κ × ν)} {k q : κ} {v : ν} (h : Sorted cmp ((k, v) :: m))
    (hq : cmp q k = .lt) : lookupFirst q ((k, v) :: m) = none := by
  rw [lookupFirst_eq_none_iff]
  intro hm
  have h' := List.pairwise_cons.1 h
  rcases List.mem_cons.1 hm with e | hm
  · simp at e; subst e; rw [ReflCmp.compare_self (cmp := cmp)] at hq; cases hq
  · obtain ⟨c, hc, e⟩ := List.mem_map.1 hm
    have := TransCmp.lt_trans hq (h'.1 c hc)
    rw [e, ReflCmp.compare_self (cmp := cmp)] at this; cases this

theorem lookupFirst_insertIfAbsent [TransCmp cmp] [LawfulEqCmp cmp] {m : List (κ × ν)} (h : Sorted cmp m)
    (k : κ) (v : ν) (q : κ) :
    lookupFirst q (insertIfAbsent cmp m k v) = (lookupFirst q m).or (if k = q then some v else none) := by
  fun_induction insertIfAbsent cmp m k v with
  | case1 => simp [lookupFirst_cons]
  | case2 k' v' rest k v hc ih =>
    rw [lookupFirst_cons, lookupFirst_cons, ih (List.pairwise_cons.1 h).2]
    split <;> simp
  | case3 k' v' rest k v hc =>
    cases LawfulEqCmp.eq_of_compare hc
    rw [lookupFirst_cons]
    split <;> simp_all
  | case4 k' v' rest k v hc =>
    rw [lookupFirst_cons (k' := k)]
    split
    · next e => subst e; rw [lookupFirst_eq_none_of_lt h (OrientedCmp.lt_of_gt hc)]; simp
    · simp

theorem lookupFirst_insertOverwrite [LawfulEqCmp cmp] (m : List (κ × ν)) (k : κ) (v : ν) (q : κ) :
    lookupFirst q (insertOverwrite cmp m k v) = if k = q then some v else lookupFirst q m := by
  fun_induction insertOverwrite cmp m k v with
  | case1 => simp [lookupFirst_cons]
  | case2 k' v' rest k v hc ih =>
    have hne : k' ≠ k := ReflCmp.ne_of_cmp_ne_eq (fun h => nomatch hc.symm.trans h)
    rw [lookupFirst_cons, lookupFirst_cons, ih]
    by_cases e1 : k' = q <;> by_cases e2 : k = q <;> simp_all
  | case3 k' v' rest k v hc =>
    cases LawfulEqCmp.eq_of_compare hc
    rw [lookupFirst_cons, lookupFirst_cons]
    split <;> simp_all
  | case4 k' v' rest k v hc => rw [lookupFirst_cons (k' := k)]

theorem foldl_insertIfAbsent_spec [TransCmp cmp] [LawfulEqCmp cmp] (xs : List (κ × ν)) {m : List (κ × ν)}
    (h : Sorted cmp m) :
    Sorted cmp (xs.foldl (fun m kv => insertIfAbsent cmp m kv.1 kv.2) m) ∧
    ∀ q, lookupFirst q (xs.foldl (fun m kv => insertIfAbsent cmp m kv.1 kv.2) m)
          = (lookupFirst q m).or (lookupFirst q xs) := by
  induction xs generalizing m with
  | nil => simp [h]
  | cons a xs ih =>
    obtain ⟨k, v⟩ := a
    have hs := sorted_insertIfAbsent h k v
    refine ⟨(ih hs).1, fun q => ?_⟩
    rw [List.foldl_cons, (ih hs).2 q, lookupFirst_insertIfAbsent h, lookupFirst_cons]
    cases lookupFirst q m <;> split <;> simp

theorem sorted_collectFirst [TransCmp cmp] [LawfulEqCmp cmp] (xs : List (κ × ν)) :
    Sorted cmp (collectFirst cmp xs) := (foldl_insertIfAbsent_spec xs sorted_nil).1

theorem lookupFirst_collectFirst [TransCmp cmp] [LawfulEqCmp cmp] (xs : List (κ × ν)) (q : κ) :
    lookupFirst q (collectFirst cmp xs) = lookupFirst q xs := by
  have := (foldl_insertIfAbsent_spec xs (sorted_nil (cmp := cmp))).2 q
  simpa [collectFirst] using this

omit [DecidableEq κ] in
theorem sorted_foldl_insertOverwrite [TransCmp cmp] [LawfulEqCmp cmp] (xs : List (κ × ν)) {m : List (κ × ν)}
    (h : Sorted cmp m) : Sorted cmp (xs.foldl (fun m kv => insertOverwrite cmp m kv.1 kv.2) m) := by
  induction xs generalizing m with
  | nil => exact h
  | cons a xs ih => exact ih (sorted_insertOverwrite h a.1 a.2)

omit [DecidableEq κ] in
theorem sorted_fromInserts [TransCmp cmp] [LawfulEqCmp cmp] (xs : List (κ × ν)) :
    Sorted cmp (fromInserts cmp xs) := sorted_foldl_insertOverwrite xs sorted_nil

end sorted

theorem filterMap_sublist_map {α β : Type} (f : α → Option β) (g : α → β) (h : ∀ a b, f a = some b → b = g a)
    (l : List α) : (l.filterMap f).Sublist (l.map g) := by
  induction l with
  | nil => simp
  | cons a l ih =>
    cases hf : f a with
    | none => simpa [hf] using ih.cons _
    | some b => simp only [List.filterMap_cons, hf, List.map_cons, h a b hf]; exact ih.cons_cons _

/-- Visit the elements left to right with a state-passing visitor; the visitor returns the new state and
    `true` to break. Returns the final state and whether the visitor broke. This is the meaning of
    `for x in xs { f(x)?; } Continue(())`. -/
def foldUntil {σ α : Type} (f : σ → α → σ × Bool) : σ → List α → σ × Bool
  | s, [] => (s, false)
  | s, x :: xs =>
    match f s x with
    | (s', true) => (s', true)
    | (s', false) => foldUntil f s' xs

@[simp] theorem foldUntil_nil {σ α : Type} (f : σ → α → σ × Bool) (s : σ) : foldUntil f s [] = (s, false) := rfl

theorem foldUntil_append {σ α : Type} (f : σ → α → σ × Bool) (s : σ) (xs ys : List α) :
    foldUntil f s (xs ++ ys) =
      match foldUntil f s xs with
      | (s', true) => (s', true)
      | (s', false) => foldUntil f s' ys := by
  induction xs generalizing s with
  | nil => simp
  | cons x xs ih =>
    simp only [List.cons_append, foldUntil]
    rcases h : f s x with ⟨s', b⟩
    cases b <;> simp [ih]

theorem foldUntil_never {σ α : Type} (g : σ → α → σ) (s : σ) (xs : List α) :
    foldUntil (fun s x => (g s x, false)) s xs = (xs.foldl g s, false) := by
  induction xs generalizing s with
  | nil => rfl
  | cons x xs ih => simp [foldUntil, ih]

end EmitModel.Assoc
