/-
  Lemmas/Otlp.lean — C14: what the metrics encoder's `Extract` stream returns, by value class (`extract_class`).
  C12: the grouping invariant of `Channel::push` (`Chan.Inv`); one run of the send loop (`send_spec`) and the retry
  loop within its budget (`exec_spec`), the latter by a potential (`Net.pending`) that every failed attempt uses up.
-/
import EmitModel.Model.Otlp

namespace EmitModel.Otlp

theorem extract_inSeq (v : Val) (e : Ext) (hs : e.inSeq = true) :
    extract v e = if isNum v then some { e with points := e.points + 1 } else none := by
  cases v <;> simp_all [isNum, extract]

theorem extractList_inSeq (xs : List Val) (e : Ext) (hs : e.inSeq = true) :
    extractList xs e =
      if xs.all isNum then some { e with points := e.points + xs.length } else none := by
  induction xs generalizing e with
  | nil => simp [extractList]
  | cons v vs ih =>
    simp only [extractList, extract_inSeq v e hs, List.all_cons]
    by_cases hv : isNum v = true
    · simp only [hv, if_true, Bool.true_and]
      rw [ih { e with points := e.points + 1 } hs]
      split <;> simp [Nat.add_assoc, Nat.add_comm 1]
    · simp [hv]

/-- Top level (`in_seq = false`): what `value.stream(&mut extract)` returns, by value class. -/
theorem extract_class (v : Val) :
    match valueClass (some v) with
    | .num => extract v ⟨false, 0⟩ = some ⟨false, 1⟩
    | .seqNums empty => ∃ n, extract v ⟨false, 0⟩ = some ⟨false, n⟩ ∧ (n = 0 ↔ empty = true)
    | _ => extract v ⟨false, 0⟩ = none := by
  cases v with
  | seq xs =>
    simp only [valueClass, extract]
    rw [extractList_inSeq xs ⟨true, 0⟩ rfl]
    by_cases hall : xs.all isNum = true
    · simp only [hall, ↓reduceIte]
      exact ⟨_, rfl, by cases xs <;> simp⟩
    · simp only [hall, Bool.false_eq_true, ↓reduceIte]
      by_cases hany : xs.any isSeq = true <;> simp [hany]
  | int n => cases h : inI64 n <;> simp [valueClass, isNum, extract, h]
  | f64 _ | kind _ | str _ | disp _ | bool _ | null => simp [valueClass, isNum, extract]

theorem aggIsSumLike_eq (v : Option Val) : aggIsSumLike v = (aggClass v).sumLike := by
  cases v with
  | none => rfl
  | some v =>
    cases v <;> try rfl
    rename_i s
    simp only [aggIsSumLike, aggClass, apply_ite AggS.sumLike]
    by_cases h1 : s = "count" <;> by_cases h2 : s = "sum" <;> simp [h1, h2, AggS.sumLike]

theorem pullKind_iff (props : List (String × Val)) :
    (pullKind props = some .metric ↔ kindClass props = .metric) ∧
    (pullKind props = some .span ↔ kindClass props = .span) := by
  unfold pullKind kindClass
  cases lookupFirst "evt_kind" props with
  | none => simp
  | some v =>
    simp only [Option.bind_some]
    cases h : castKind v with
    | none => simp
    | some k => cases k <;> simp

/-- The grouping invariant of `Channel::push` after the events `evs` were pushed with limit `limit`. The requests are
    stored newest first, so the head is the one being filled: `closed` is about the others, `open_` says that none
    kept growing after reaching the limit. -/
structure Chan.Inv (limit : Nat) (c : Chan) (evs : List Ev) : Prop where
  flat : c.requests.reverse.flatten = evs
  total : c.total = evs.length
  nonempty : ∀ r ∈ c.requests, r ≠ []
  closed : ∀ r ∈ c.requests.tail, limit ≤ reqSize r
  open_ : ∀ r ∈ c.requests, ∀ k, 0 < k → k < r.length → reqSize (r.take k) < limit
  cur : c.cur = reqSize (c.requests.headD [])

theorem reqSize_append (a b : Request) : reqSize (a ++ b) = reqSize a + reqSize b := by
  simp [reqSize]

theorem Chan.inv_push (limit : Nat) (c : Chan) (evs : List Ev) (e : Ev) (h : Chan.Inv limit c evs) :
    Chan.Inv limit (c.push limit e) (evs ++ [e]) := by
  obtain ⟨hf, ht, hn, hc, ho, hcur⟩ := h
  unfold Chan.push
  cases hr : c.requests with
  | nil =>
    obtain rfl : evs = [] := by simpa [hr] using hf.symm
    refine ⟨by simp, by simpa using ht, by simp, by simp, fun r hr k h0 h1 => ?_, by simp [reqSize]⟩
    obtain rfl : r = [e] := by simpa using hr
    simp at h1; omega
  | cons r rs =>
    simp only [hr, List.reverse_cons, List.flatten_append, List.flatten_cons, List.flatten_nil, List.append_nil,
      List.mem_cons, forall_eq_or_imp, List.tail_cons, List.headD_cons] at hf hn hc ho hcur
    dsimp only
    split
    · refine ⟨by simp [← hf], by simp [ht], ?_, ?_, ?_, by simp [reqSize]⟩
      · simpa using hn
      · simp only [List.tail_cons, List.mem_cons, forall_eq_or_imp]; exact ⟨by omega, hc⟩
      · simp only [List.mem_cons, forall_eq_or_imp]
        exact ⟨fun k h0 h1 => by simp at h1; omega, ho⟩
    · -- `e` is appended to `r`: the only new proper prefix of `r ++ [e]` is `r` itself
      refine ⟨by simp [← hf], by simp [ht], ?_, by simpa using hc, ?_, by simp [hcur, reqSize]⟩
      · simpa using hn.2
      · simp only [List.mem_cons, forall_eq_or_imp]
        refine ⟨fun k h0 h1 => ?_, ho.2⟩
        simp only [List.length_append, List.length_cons, List.length_nil, Nat.zero_add] at h1
        by_cases hk : k < r.length
        · rw [List.take_append_of_le_length (by omega)]
          exact ho.1 k h0 hk
        · obtain rfl : k = r.length := by omega
          simp only [List.take_left']
          omega

theorem Chan.inv_foldl (limit : Nat) (es : List Ev) (c : Chan) (pre : List Ev) (h : Chan.Inv limit c pre) :
    Chan.Inv limit (es.foldl (Chan.push limit) c) (pre ++ es) := by
  induction es generalizing c pre with
  | nil => simpa using h
  | cons e es ih =>
    simp only [List.foldl_cons]
    have := ih (c.push limit e) (pre ++ [e]) (Chan.inv_push limit c pre e h)
    simpa using this

theorem Chan.inv_ofEvents (limit : Nat) (evs : List Ev) : Chan.Inv limit (Chan.ofEvents limit evs) evs :=
  Chan.inv_foldl limit evs Chan.empty [] (by constructor <;> simp [Chan.empty, reqSize])

/-- A recorded request that the client took as acknowledged. -/
def ackedBy (tr : Transport) (e : Entry) : Bool := okResp tr e.resp

/-- What one response costs the retry budget: 1 when the client counts it as a failure, plus 1 when it leaves a
    stale sender in the slot (the next attempt fails on it without reaching the endpoint). -/
def respCost (tr : Transport) (r : Resp) : Nat :=
  (if okResp tr r then 0 else 1) + (if r.leavesStale then 1 else 0)

/-- Upper bound of the attempts that will fail while the endpoint works through a script. -/
def failCount (tr : Transport) : List Resp → Nat
  | [] => 0
  | r :: rs => respCost tr r + failCount tr rs

/-- The same for a transport state: the script, plus the failure a stale pooled sender already holds. -/
def Net.pending (tr : Transport) (net : Net) : Nat :=
  failCount tr net.script + (if net.staleNow then 1 else 0)

theorem attempt_dead (tr : Transport) (net : Net) (r : Request) (h : net.dead = true) :
    attempt tr net r = (false, { net with slot := false }) := by
  simp [attempt, h]

theorem attempt_stale (tr : Transport) (net : Net) (r : Request) (h : net.dead = false)
    (hs : net.staleNow = true) :
    attempt tr net r = (false, { net with slot := false, stale := false }) := by
  simp [attempt, h, hs]

theorem attempt_live (tr : Transport) (net : Net) (r : Request) (h : net.dead = false)
    (hs : net.staleNow = false) :
    attempt tr net r = (okResp tr net.nextResp, net.record r) := by
  simp [attempt, h, hs]

@[simp] theorem record_log (net : Net) (r : Request) :
    (net.record r).log = ⟨if net.nextResp = .rstB then none else some (reqIds r), net.nextResp, !net.slot⟩ :: net.log := rfl
@[simp] theorem record_dead (net : Net) (r : Request) : (net.record r).dead = net.dead := rfl
@[simp] theorem record_script (net : Net) (r : Request) : (net.record r).script = net.script.tail := rfl
@[simp] theorem record_slot (net : Net) (r : Request) : (net.record r).slot = net.nextResp.headArrives := rfl
@[simp] theorem record_stale (net : Net) (r : Request) : (net.record r).stale = net.nextResp.leavesStale := rfl

/-- One transmission uses up what its response costs: the head of the script is consumed. -/
theorem record_pending (tr : Transport) (net : Net) (r : Request) :
    (net.record r).pending tr + (if okResp tr net.nextResp then 0 else 1) ≤
      failCount tr net.script := by
  simp only [Net.pending, Net.staleNow, record_slot, record_stale, record_script]
  cases hs : net.script with
  | nil =>
    have : net.nextResp = .ack := by simp [Net.nextResp, hs]
    have hack : okResp tr .ack = true := by cases tr <;> decide
    simp [this, hack, failCount, Resp.leavesStale]
  | cons a as =>
    have : net.nextResp = a := by simp [Net.nextResp, hs]
    simp only [this, List.tail_cons, failCount, respCost]
    cases okResp tr a <;> cases a.leavesStale <;> cases a.headArrives <;> simp <;> omega

/-- **One run of the send loop.** The batch splits as `done ++ rem`: the requests of `done` were transmitted once
    each, in order, and acknowledged (`es`, newest first); `rem` is handed back for the retry, and the run succeeded
    iff it is empty; `fs` is the entry of the failed transmission — none when the attempt found a dead endpoint or
    a stale sender in the slot and nothing reached the endpoint. On a live endpoint a failing run uses up at least
    one unit of `Net.pending` and a successful one never adds to it (the potential behind the retry budget). -/
theorem send_spec (tr : Transport) (reqs : List Request) (net : Net) :
    ∃ (done rem : List Request) (es fs : List Entry),
      reqs = done ++ rem ∧
      (send tr reqs net).2.log = fs ++ (es ++ net.log) ∧
      (send tr reqs net).2.dead = net.dead ∧
      es.reverse.map (·.ids) = done.map (fun r => some (reqIds r)) ∧
      (∀ e ∈ es, ackedBy tr e = true) ∧
      ((rem = [] ∧ fs = [] ∧ (send tr reqs net).1 = .ok ∧
          (net.dead = false → (send tr reqs net).2.pending tr ≤ net.pending tr)) ∨
       (∃ r rest, rem = r :: rest ∧ (send tr reqs net).1 = .retry rem ∧ (net.dead = false →
          (send tr reqs net).2.pending tr + 1 ≤ net.pending tr ∧
          ((∃ f, fs = [f] ∧ ackedBy tr f = false ∧ (f.ids = some (reqIds r) ∨ (f.ids = none ∧ f.resp = .rstB))) ∨
           (fs = [] ∧ (send tr reqs net).2.slot = false ∧
             ((es = [] ∧ net.staleNow = true) ∨ (∃ e es', es = e :: es' ∧ e.resp.leavesStale = true))))))) := by
  induction reqs generalizing net with
  | nil => exact ⟨[], [], [], [], rfl, rfl, rfl, rfl, by simp, .inl ⟨rfl, rfl, rfl, fun _ => Nat.le_refl _⟩⟩
  | cons r rs ih =>
    rcases Bool.eq_false_or_eq_true net.dead with hd | hd
    · rw [send, attempt_dead tr net r hd]
      exact ⟨[], r :: rs, [], [], rfl, rfl, rfl, rfl, by simp, .inr ⟨r, rs, rfl, rfl, by simp [hd]⟩⟩
    rcases Bool.eq_false_or_eq_true net.staleNow with hst | hst
    · rw [send, attempt_stale tr net r hd hst]
      refine ⟨[], r :: rs, [], [], rfl, rfl, rfl, rfl, by simp,
        .inr ⟨r, rs, rfl, rfl, fun _ => ⟨?_, .inr ⟨rfl, rfl, .inl ⟨rfl, hst⟩⟩⟩⟩⟩
      have hst' := hst
      simp only [Net.staleNow, Bool.and_eq_true] at hst'
      simp [Net.pending, Net.staleNow, hst']
    rw [send, attempt_live tr net r hd hst]
    have hstep := record_pending tr net r
    have hpend : net.pending tr = failCount tr net.script := by simp [Net.pending, hst]
    rcases Bool.eq_false_or_eq_true (okResp tr net.nextResp) with hok | hok
    · -- acknowledged: `r` joins `done`; the rest of the run is the induction hypothesis from `net.record r`
      simp only [hok, if_true, Nat.add_zero] at hstep ⊢
      have hne : net.nextResp ≠ .rstB := by
        intro hc; rw [hc] at hok; cases tr <;> cases hok
      obtain ⟨done, rem, es, fs, hsplit, hlog, hdead, hids, hack, hcase⟩ := ih (net.record r)
      refine ⟨r :: done, rem, es ++ [⟨some (reqIds r), net.nextResp, !net.slot⟩], fs, by simp [hsplit],
        by simp [hlog, hne], by simp [hdead], by simp [hids],
        List.forall_mem_append.mpr ⟨hack, by simpa [ackedBy] using hok⟩, ?_⟩
      have hd' : (net.record r).dead = false := by simpa using hd
      rcases hcase with ⟨h1, h2, h3, hp⟩ | ⟨r', rest, h1, h2, hlive⟩
      · exact .inl ⟨h1, h2, h3, fun _ => by have := hp hd'; omega⟩
      · refine .inr ⟨r', rest, h1, h2, fun _ => ⟨by have := (hlive hd').1; omega, ?_⟩⟩
        rcases (hlive hd').2 with hreal | ⟨hfs', hslot, hcause⟩
        · exact .inl hreal
        · refine .inr ⟨hfs', hslot, .inr ?_⟩
          rcases hcause with ⟨rfl, hstale⟩ | ⟨e, es', rfl, hle⟩
          · simp only [Net.staleNow, record_slot, record_stale, Bool.and_eq_true] at hstale
            exact ⟨_, [], rfl, hstale.2⟩
          · exact ⟨e, es' ++ [_], rfl, hle⟩
    · simp only [hok, Bool.false_eq_true, if_false] at hstep ⊢
      refine ⟨[], r :: rs, [], [_], rfl, rfl, rfl, rfl, by simp,
        .inr ⟨r, rs, rfl, rfl, fun _ =>
          ⟨by simpa [hpend] using hstep, .inl ⟨_, rfl, by simpa [ackedBy] using hok, ?_⟩⟩⟩⟩
      by_cases hb : net.nextResp = .rstB <;> simp [hb]

theorem send_pending (tr : Transport) (reqs : List Request) (net net' : Net) (res : SendResult)
    (hd : net.dead = false) (h : send tr reqs net = (res, net')) :
    (∀ rem, res = .retry rem → net'.pending tr + 1 ≤ net.pending tr) ∧ net'.pending tr ≤ net.pending tr := by
  obtain ⟨_, _, _, _, _, _, _, _, _, hcase⟩ := send_spec tr reqs net
  simp only [h] at hcase
  rcases hcase with ⟨_, _, rfl, hp⟩ | ⟨_, _, _, _, hlive⟩
  · exact ⟨nofun, hp hd⟩
  · have := (hlive hd).1
    exact ⟨fun _ _ => this, by omega⟩

theorem failCount_nil (tr : Transport) : failCount tr [] = 0 := rfl

theorem failCount_tail_le (tr : Transport) (s : List Resp) : failCount tr s.tail ≤ failCount tr s := by
  cases s with
  | nil => simp [failCount]
  | cons a as => simp only [List.tail_cons, failCount]; omega

theorem mem_ids {es : List Entry} {done : List Request}
    (hids : es.reverse.map (·.ids) = done.map (fun r => some (reqIds r))) {r : Request} (hr : r ∈ done) :
    ∃ e ∈ es, e.ids = some (reqIds r) := by
  have : some (reqIds r) ∈ es.reverse.map (·.ids) := hids ▸ List.mem_map_of_mem hr
  obtain ⟨e, he, hid⟩ := List.mem_map.1 this
  exact ⟨e, List.mem_reverse.1 he, hid⟩

theorem exec_of_ok (tr : Transport) (total k : Nat) (reqs : List Request) (net : Net)
    (h : (send tr reqs net).1 = .ok) : execBatch tr total k reqs net = (true, (send tr reqs net).2) := by
  cases hs : send tr reqs net with
  | mk res n => rw [hs] at h; cases h; cases k <;> simp [execBatch, hs]

theorem exec_of_retry (tr : Transport) (total k : Nat) (reqs rem : List Request) (net : Net)
    (h : (send tr reqs net).1 = .retry rem) (ht : 0 < total) :
    execBatch tr total (k + 1) reqs net = execBatch tr total k rem (send tr reqs net).2 := by
  cases hs : send tr reqs net with
  | mk res n => rw [hs] at h; cases h; simp [execBatch, hs, ht]

/-- **The retry loop within its budget.** While the failures still to come (failing responses of the script, stale
    pooled senders) fit in the retry budget, the receiver reports success and the acknowledged ones among the new log
    entries are, oldest first, exactly the batch's requests in order: each acknowledged once, whatever failed in
    between. Without any failure to come every new entry is acknowledged. -/
theorem exec_spec (tr : Transport) (total : Nat) (ht : 0 < total) (retries : Nat) (reqs : List Request)
    (net : Net) (hd : net.dead = false) (hf : net.pending tr ≤ retries) :
    ∃ (net' : Net) (es : List Entry), execBatch tr total retries reqs net = (true, net') ∧
      net'.log = es ++ net.log ∧ net'.dead = false ∧
      (es.filter (ackedBy tr)).reverse.map (·.ids) = reqs.map (fun r => some (reqIds r)) ∧
      (net.pending tr = 0 → ∀ e ∈ es, ackedBy tr e = true) := by
  induction retries using Nat.strongRecOn generalizing reqs net with
  | _ retries ih =>
    obtain ⟨done, rem, es, fs, hsplit, hlog, hdead, hids, hack, hcase⟩ := send_spec tr reqs net
    have hes : es.filter (ackedBy tr) = es := List.filter_eq_self.mpr hack
    rcases hcase with ⟨rfl, rfl, hres, _⟩ | ⟨r, rest, rfl, hres, hlive⟩
    · exact ⟨_, es, exec_of_ok tr _ _ _ _ hres, by simp [hlog], by rw [hdead, hd], by simpa [hes, hsplit] using hids,
        fun _ => hack⟩
    · obtain ⟨hp, hshape⟩ := hlive hd
      -- a failing run costs one unit of the budget, so one retry is left
      obtain ⟨k, rfl⟩ : ∃ k, retries = k + 1 := ⟨retries - 1, by omega⟩
      obtain ⟨net', es', hex, hlog', hdead', hids', _⟩ := ih k (by omega) (r :: rest) _ (by rw [hdead, hd]) (by omega)
      -- the failed transmission, if it left an entry, left one that is not acknowledged
      have hfs : fs.filter (ackedBy tr) = [] := by
        rcases hshape with ⟨f, rfl, hf, _⟩ | ⟨rfl, _⟩ <;> simp [*]
      exact ⟨net', es' ++ (fs ++ es), by rw [exec_of_retry tr _ _ _ _ _ hres ht, hex], by simp [hlog', hlog], hdead',
        by simp [List.filter_append, hfs, hes, hsplit, hids, hids'], fun h0 => by omega⟩

theorem exec_dead (tr : Transport) (total retries : Nat) (r : Request) (rs : List Request) (net : Net)
    (hd : net.dead = true) :
    execBatch tr total retries (r :: rs) net = (false, { net with slot := false }) := by
  induction retries generalizing net with
  | zero => rw [execBatch, send, attempt_dead tr net r hd]
  | succ k ih =>
    rw [execBatch, send, attempt_dead tr net r hd]
    simp only
    split
    · rw [ih _ (by simpa using hd)]
    · rfl

end EmitModel.Otlp
