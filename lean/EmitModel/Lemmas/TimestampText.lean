/-
  Lemmas/TimestampText.lean — C15. The RFC 3339 text layer of Model/Timestamp.lean around `rfc3339Text`, the documented
  grammar: what the parser does on it (`parse_text`), and the formatter writes it (`fmtParts_eq_text`).
-/
import EmitModel.Lemmas.Calendar
import EmitModel.Lemmas.TimestampDigits

namespace EmitModel.Timestamp
open EmitModel.Text

def head19 (y0 y1 y2 y3 m0 m1 d0 d1 h0 h1 i0 i1 s0 s1 : UInt8) : List UInt8 :=
  [y0, y1, y2, y3, 45, m0, m1, 45, d0, d1, 84, h0, h1, 58, i0, i1, 58, s0, s1]

/-- The documented grammar `YYYY-MM-DDThh:mm:ss[.F]Z`; `F = []` stands for "no sub-second part". -/
def rfc3339Text (Y Mo D H Mi S : Nat) (F : List UInt8) : List UInt8 :=
  four Y ++ [45] ++ two Mo ++ [45] ++ two D ++ [84] ++ two H ++ [58] ++ two Mi ++ [58] ++ two S ++
    (if F = [] then [90] else 46 :: (F ++ [90]))

def fracNanos (F : List UInt8) : Nat := digitsVal F * 10 ^ (9 - F.length)

theorem nanos_split (k : Nat) (hk : k ≤ 9) : NANOS = 10 ^ (9 - k) * 10 ^ k := by
  rw [← Nat.pow_add, Nat.sub_add_cancel hk]; rfl

theorem fracNanos_lt (F : List UInt8) (hF : F.length ≤ 9) (h : F.all isDigit = true) : fracNanos F < NANOS := by
  rw [fracNanos, nanos_split F.length hF, Nat.mul_comm]
  exact Nat.mul_lt_mul_of_pos_left (digitsVal_lt F h) (Nat.pow_pos (by decide))

theorem parse_text (Y Mo D H Mi S : Nat) (F : List UInt8) (hY : Y < 10000) (hMo : Mo < 100) (hD : D < 100)
    (hH : H < 100) (hMi : Mi < 100) (hS : S < 100) (hF : F.length ≤ 9) (hFd : F.all isDigit = true) :
    parseRfc3339 (rfc3339Text Y Mo D H Mi S F) = finish Y Mo D H Mi S (fracNanos F) := by
  have dY := digits4 Y hY
  have dM := digits2 Mo hMo
  have dD := digits2 D hD
  have dH := digits2 H hH
  have dI := digits2 Mi hMi
  have dS := digits2 S hS
  -- the text is an explicit list up to `F`: the parser's indexing and slicing compute
  by_cases hF0 : F = []
  · subst hF0
    simp [parseRfc3339, parseNanos, sub, rfc3339Text, four, two, dY, dM, dD, dH, dI, dS, parseFields, fracNanos,
      digitsVal]
  · have dF : digits F = some (digitsVal F) := by simp [digits, hFd]
    simp [parseRfc3339, parseNanos, sub, rfc3339Text, four, two, dY, dM, dD, dH, dI, dS, dF, parseFields, fracNanos,
      hF0]
    -- what is left is the branch of a failed length check; the text has `21 + F.length ≤ 30` bytes
    intro h
    omega

theorem fmtDateTime_eq (p : Parts) :
    fmtDateTime p = head19 (dig (p.years / 1000)) (dig (p.years / 100 % 10)) (dig (p.years / 10 % 10)) (dig (p.years % 10))
      (dig (p.months / 10)) (dig (p.months % 10)) (dig (p.days / 10)) (dig (p.days % 10))
      (dig (p.hours / 10)) (dig (p.hours % 10)) (dig (p.minutes / 10)) (dig (p.minutes % 10))
      (dig (p.seconds / 10)) (dig (p.seconds % 10)) := rfl

theorem fmtParts_eq_text (k : Nat) (p : Parts) :
    fmtParts (some k) p =
      rfc3339Text p.years p.months p.days p.hours p.minutes p.seconds (fracDigits (min 9 k) p.nanos) := by
  cases k with
  | zero => simp [fmtParts, rfc3339Text, fmtDateTime, four, two, fracDigits]
  | succ k =>
    have hne : fracDigits (min 9 (k + 1)) p.nanos ≠ [] :=
      List.ne_nil_of_length_pos (by rw [fracDigits_length]; omega)
    simp [fmtParts, rfc3339Text, fmtDateTime, four, two, hne]

theorem fmtRfc3339_none (t : Nat) : fmtRfc3339 none t = fmtRfc3339 (some 9) t := by simp [fmtRfc3339, fmtParts]

theorem parse_fmtParts (p : Parts) (hr : InRange p) (k : Nat) (hk : k ≤ 9) :
    parseRfc3339 (fmtParts (some k) p) =
      finish p.years p.months p.days p.hours p.minutes p.seconds (p.nanos / 10 ^ (9 - k) * 10 ^ (9 - k)) := by
  obtain ⟨⟨_, hy⟩, ⟨_, hmo⟩, ⟨_, hd⟩, hh, hmi, hs, hn⟩ := hr
  obtain ⟨hF, hv, hl⟩ := fracDigits_spec k p.nanos hk (by simp only [Nat.reducePow]; omega)
  rw [fmtParts_eq_text, Nat.min_eq_right hk, parse_text _ _ _ _ _ _ _ (by omega) (by omega) (by omega) (by omega)
    (by omega) (by omega) (by rw [hl]; exact hk) hF, fracNanos, hv, hl]

theorem trunc_facts (t k : Nat) (hk : k ≤ 9) :
    (t - t % 10 ^ (9 - k)) / NANOS = t / NANOS ∧
    (t - t % 10 ^ (9 - k)) % NANOS = t % NANOS / 10 ^ (9 - k) * 10 ^ (9 - k) := by
  have hP : 0 < 10 ^ (9 - k) := Nat.pow_pos (by decide)
  rw [← Nat.mul_div_self_eq_mod_sub_self, nanos_split k hk, Nat.mul_div_mul_left _ _ hP, Nat.div_div_eq_div_mul,
    Nat.mul_mod_mul_left, Nat.mod_mul_right_div_self]
  exact ⟨rfl, Nat.mul_comm _ _⟩

theorem toParts_eq (t : Nat) (p : Parts) (h : toPartsO t = .ok p) : toParts t = p := by
  -- `simp [toParts, h]` compares two matches stuck on `toPartsO t`: elaborator and kernel then unfold all of it
  unfold toParts
  rw [h]

theorem finish_ok (y mo d h mi s n t : Nat) :
    finish y mo d h mi s n = .ok t ↔ 1 ≤ mo ∧ 1 ≤ d ∧ fromParts ⟨y, mo, d, h, mi, s, n⟩ = .ok (some t) := by
  unfold finish
  by_cases hz : mo = 0 ∨ d = 0
  · simp only [hz, ↓reduceIte]
    constructor
    · intro h; cases h
    · rintro ⟨h1, h2, _⟩; omega
  · simp only [hz, ↓reduceIte]
    have : 1 ≤ mo ∧ 1 ≤ d := by omega
    cases hf : fromParts ⟨y, mo, d, h, mi, s, n⟩ with
    | ok v => cases v <;> simp [this]
    | err => simp
    | panic => simp

theorem parseFields_ok (a b c d e f g : Option Nat) (t : Nat) :
    parseFields a b c d e f g = .ok t ↔
      ∃ y mo dd h mi s n, a = some y ∧ b = some mo ∧ c = some dd ∧ d = some h ∧ e = some mi ∧ f = some s ∧
        g = some n ∧ finish y mo dd h mi s n = .ok t := by
  constructor
  · intro h
    unfold parseFields at h
    split at h
    · exact ⟨_, _, _, _, _, _, _, rfl, rfl, rfl, rfl, rfl, rfl, rfl, h⟩
    · cases h
  · rintro ⟨_, _, _, _, _, _, _, rfl, rfl, rfl, rfl, rfl, rfl, rfl, hf⟩
    exact hf

theorem fromParts_ne_panic (p : Parts) (hd : p.days ≠ 0) (hm : p.months ≠ 0) : fromParts p ≠ .panic := by
  unfold fromParts
  simp only [hd, hm, ↓reduceIte]
  repeat' split
  all_goals simp

theorem finish_ne_panic (y mo d h mi s n : Nat) : finish y mo d h mi s n ≠ .panic := by
  unfold finish
  split
  · simp
  · rename_i hz
    have := fromParts_ne_panic ⟨y, mo, d, h, mi, s, n⟩ (by simp only; omega) (by simp only; omega)
    cases hf : fromParts ⟨y, mo, d, h, mi, s, n⟩ with
    | ok v => cases v <;> simp
    | err => simp
    | panic => exact absurd hf this

end EmitModel.Timestamp
