/-
  Lemmas/PathValid.lean — C15. The `is_valid_path` state machine accepts exactly the grammar
  `first ("::" segment)*` (`run_grammar`, `grammar_of_run`); `startsWith_iff` for `is_child_of`.
-/
import EmitModel.Model.PathValid

namespace EmitModel.PathValid

section Grammar
variable (xs xc : Char → Bool)

/-- an identifier character: `XID_Start` or `XID_Continue` -/
def ident (c : Char) : Bool := xs c || xc c

/-- a segment after a separator: one `XID_Start` character, then identifier characters -/
def Seg (seg : List Char) : Prop := ∃ h t, seg = h :: t ∧ xs h = true ∧ ∀ c ∈ t, ident xs xc c = true

/-- `"::" seg₁ "::" seg₂ …` -/
def joinSegs : List (List Char) → List Char
  | [] => []
  | seg :: rest => ':' :: ':' :: (seg ++ joinSegs rest)

/-! `step` read backwards, state by state: 0 = inside an identifier, 1 = after one `:`, 2 = after `::`. -/

theorem step_zero (c : Char) (s : Nat) (h : step xs xc 0 c = some s) :
    (c = ':' ∧ s = 1) ∨ (ident xs xc c = true ∧ s = 0) := by
  unfold step at h
  by_cases hc : c = ':'
  · simp [hc] at h; exact Or.inl ⟨hc, h.symm⟩
  · by_cases hs : xs c = true
    · simp [hc, hs] at h; exact Or.inr ⟨by simp [ident, hs], h.symm⟩
    · by_cases hx : xc c = true
      · simp [hc, hs, hx] at h; exact Or.inr ⟨by simp [ident, hx], h.symm⟩
      · simp [hc, hs, hx] at h

theorem step_one (c : Char) (s : Nat) (h : step xs xc 1 c = some s) : c = ':' ∧ s = 2 := by
  unfold step at h
  by_cases hc : c = ':'
  · simp [hc] at h; exact ⟨hc, h.symm⟩
  · simp [hc] at h

theorem step_two (c : Char) (s : Nat) (h : step xs xc 2 c = some s) : xs c = true ∧ s = 0 := by
  unfold step at h
  by_cases hs : xs c = true
  · simp [hs] at h; exact ⟨hs, h.symm⟩
  · simp [hs] at h

/-- One induction over the text for all three states: what the machine accepts from each back to state 0. -/
theorem grammar_of_run : ∀ (w : List Char) (sep : Nat), run xs xc sep w = some 0 →
    (sep = 0 → ∃ first rest, w = first ++ joinSegs rest ∧ (∀ c ∈ first, ident xs xc c = true) ∧
      ∀ seg ∈ rest, Seg xs xc seg) ∧
    (sep = 1 → ∃ seg rest, w = ':' :: (seg ++ joinSegs rest) ∧ Seg xs xc seg ∧ ∀ seg ∈ rest, Seg xs xc seg) ∧
    (sep = 2 → ∃ seg rest, w = seg ++ joinSegs rest ∧ Seg xs xc seg ∧ ∀ seg ∈ rest, Seg xs xc seg) := by
  intro w
  induction w with
  | nil =>
    intro sep h
    obtain rfl : sep = 0 := Option.some.inj h
    exact ⟨fun _ => ⟨[], [], rfl, by simp, by simp⟩, fun h => by omega, fun h => by omega⟩
  | cons c w ih =>
    intro sep h
    simp only [run] at h
    cases hs : step xs xc sep c with
    | none => simp [hs] at h
    | some s' =>
      rw [hs] at h
      have ih := ih s' h
      refine ⟨?_, ?_, ?_⟩ <;> rintro rfl
      · rcases step_zero xs xc c s' hs with ⟨rfl, rfl⟩ | ⟨hid, rfl⟩
        · obtain ⟨seg, rest, rfl, hseg, hrest⟩ := ih.2.1 rfl
          exact ⟨[], seg :: rest, rfl, by simp, by simpa using ⟨hseg, hrest⟩⟩
        · obtain ⟨first, rest, rfl, hf, hr⟩ := ih.1 rfl
          exact ⟨c :: first, rest, rfl, by simpa using ⟨hid, hf⟩, hr⟩
      · obtain ⟨rfl, rfl⟩ := step_one xs xc c s' hs
        obtain ⟨seg, rest, rfl, hseg, hrest⟩ := ih.2.2 rfl
        exact ⟨seg, rest, rfl, hseg, hrest⟩
      · obtain ⟨hx, rfl⟩ := step_two xs xc c s' hs
        obtain ⟨first, rest, rfl, hf, hr⟩ := ih.1 rfl
        exact ⟨c :: first, rest, rfl, ⟨c, first, rfl, hx, hf⟩, hr⟩

/- true of `unicode_ident`'s classes; `C15.path_spec` carries it as its hypothesis -/
variable (hcolon : xs ':' = false ∧ xc ':' = false)
include hcolon

theorem ident_ne_colon (c : Char) (h : ident xs xc c = true) : c ≠ ':' := by
  intro hc
  subst hc
  simp [ident, hcolon.1, hcolon.2] at h

theorem step_ident (c : Char) (h : ident xs xc c = true) : step xs xc 0 c = some 0 := by
  have hne := ident_ne_colon xs xc hcolon c h
  unfold step
  simp only [hne, false_and, ↓reduceIte, Nat.zero_mod, true_and]
  by_cases hs : xs c = true
  · simp [hs]
  · have : xc c = true := by simpa [ident, hs] using h
    simp [hs, this]

theorem run_ident (w v : List Char) (h : ∀ c ∈ w, ident xs xc c = true) :
    run xs xc 0 (w ++ v) = run xs xc 0 v := by
  induction w with
  | nil => rfl
  | cons c rest ih =>
    have hc := step_ident xs xc hcolon c (h c (by simp))
    simp only [List.cons_append, run, hc]
    exact ih (fun c hc => h c (by simp [hc]))

theorem run_seg (seg v : List Char) (h : Seg xs xc seg) :
    run xs xc 0 (':' :: ':' :: (seg ++ v)) = run xs xc 0 v := by
  obtain ⟨hd, tl, rfl, hs, ht⟩ := h
  have hne : hd ≠ ':' := ident_ne_colon xs xc hcolon hd (by simp [ident, hs])
  have s1 : step xs xc 0 ':' = some 1 := by simp [step]
  have s2 : step xs xc 1 ':' = some 2 := by simp [step]
  have s3 : step xs xc 2 hd = some 0 := by simp [step, hne, hs]
  simp only [run, s1, s2, List.cons_append, s3]
  exact run_ident xs xc hcolon tl v ht

theorem run_grammar (first : List Char) (rest : List (List Char))
    (hf : ∀ c ∈ first, ident xs xc c = true) (hr : ∀ seg ∈ rest, Seg xs xc seg) :
    run xs xc 0 (first ++ joinSegs rest) = some 0 := by
  rw [run_ident xs xc hcolon first _ hf]
  induction rest with
  | nil => rfl
  | cons seg rest ih =>
    simp only [joinSegs]
    rw [run_seg xs xc hcolon seg _ (hr seg (by simp))]
    exact ih (fun s hs => hr s (by simp [hs]))

end Grammar

theorem startsWith_iff (s p : List UInt8) : startsWith s p = true ↔ ∃ r, s = p ++ r := by
  induction p generalizing s with
  | nil => cases s <;> simp [startsWith]
  | cons b bs ih =>
    cases s with
    | nil => simp [startsWith]
    | cons a as =>
      simp only [startsWith, Bool.and_eq_true, beq_iff_eq, ih, List.cons_append, List.cons.injEq]
      exact exists_and_left.symm

end EmitModel.PathValid
