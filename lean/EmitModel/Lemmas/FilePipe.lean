/-
  Lemmas/FilePipe.lean — the rolling-file emitter as a whole (Model/FilePipe.lean): every composite execution projects
  onto an execution of the channel, and an invariant relating the channel's bookkeeping (which items are finalised,
  which batch the receiver holds) to the filesystem (which events are kept in synced content).
-/
import EmitModel.Model.FilePipe
import EmitModel.Lemmas.BatcherFrame
import EmitModel.Thm.C10

namespace EmitModel.FilePipe
open EmitModel EmitModel.FileSet

/-- The composite step with what its channel step does to the finalised items and the held batch. `giveUp` is every
    conclusion that ends the batch as failed (`no_retry`, or a retry the channel refuses): the invariants need no more
    of `r` and `o` than that the batch is finalised and no longer held. -/
inductive Step (cfg : Cfg) (s : St) : Label → St → Prop
  | chan {bl ch'} (hb : Batcher.step cfg.ch s.ch bl = some ch') (hfin : ch'.finalised = s.ch.finalised)
      (hheld : ch'.rx.held = none ∨ ch'.rx.held = s.ch.rx.held) : Step cfg s (.chan bl) { s with ch := ch' }
  | begin {ch' b fw} (hb : Batcher.step cfg.ch s.ch .rxBegin = some ch') (hfin : ch'.finalised = s.ch.finalised)
      (hrx : ch'.rx = .processing b b fw) :
      Step cfg s (.chan .rxBegin)
        { s with ch := ch', cur := some (Batch.ofEvents (b.map cfg.ev)), began := s.fs.log.length }
  | ok {now id orig cu ws b fs' ch'} (hrx : s.ch.rx = .processing orig cu ws) (hcur : s.cur = some b)
      (hob : onBatch cfg.file cfg.plan now id b s.fs = (.ok, fs'))
      (hb : Batcher.step cfg.ch s.ch (.rxOutcome .ok) = some ch')
      (hfin : ch'.finalised = s.ch.finalised ++ orig) (hheld : ch'.rx.held = none) :
      Step cfg s (.process now id)
        { s with ch := ch', fs := fs', cur := none, okd := s.okd ++ orig.map fun x => (x, s.began) }
  | retry {now id orig cu ws b b' fs' ch'} (hrx : s.ch.rx = .processing orig cu ws) (hcur : s.cur = some b)
      (hob : onBatch cfg.file cfg.plan now id b s.fs = (.retry b', fs'))
      (hb : Batcher.step cfg.ch s.ch (.rxOutcome (.failRetry (remainder cu b'))) = some ch')
      (hfin : ch'.finalised = s.ch.finalised) (hheld : ch'.rx.held = some (orig, remainder cu b')) :
      Step cfg s (.process now id) { s with ch := ch', fs := fs', cur := some b' }
  | giveUp {now id orig cu ws b r fs' o ch'} (hrx : s.ch.rx = .processing orig cu ws) (hcur : s.cur = some b)
      (hob : onBatch cfg.file cfg.plan now id b s.fs = (r, fs'))
      (hb : Batcher.step cfg.ch s.ch (.rxOutcome o) = some ch')
      (hfin : ch'.finalised = s.ch.finalised ++ orig) (hheld : ch'.rx.held = none) :
      Step cfg s (.process now id) { s with ch := ch', fs := fs', cur := none, failed := s.failed ++ orig }
  | crash {now id orig cu ws b fs'} (hrx : s.ch.rx = .processing orig cu ws) (hcur : s.cur = some b)
      (hob : onBatch cfg.file cfg.plan now id b s.fs = (.crashed, fs')) :
      Step cfg s (.process now id) { s with fs := fs', crashed := true }

theorem stepLive_chan (cfg : Cfg) (s : St) (bl : Batcher.Label) :
    stepLive cfg s (.chan bl) = Batcher.chanStep cfg.ch s.ch (fun ch' => { s with ch := ch' })
      (fun ch' c => { s with ch := ch', cur := some (Batch.ofEvents (c.map cfg.ev)), began := s.fs.log.length }) bl := by
  cases bl <;> rfl

theorem not_crashed {cfg : Cfg} {s s' : St} {l : Label} (h : step cfg s l = some s') : s.crashed = false := by
  cases hc : s.crashed with
  | false => rfl
  | true => simp [step, hc] at h

theorem Step.of_step {cfg : Cfg} {s s' : St} {l : Label} (h : step cfg s l = some s') : Step cfg s l s' := by
  simp only [step, not_crashed h, Bool.false_eq_true, if_false] at h
  cases l with
  | chan bl =>
    obtain ⟨ch', hb, hfin, ⟨rfl, b, fw, -, hrx, -, rfl⟩ | ⟨rfl, hheld⟩⟩ :=
      Batcher.chanStep_some (stepLive_chan cfg s bl ▸ h)
    · exact .begin hb hfin hrx
    · exact .chan hb hfin (hheld.imp_right And.left)
  | process now id =>
    simp only [stepLive] at h
    split at h
    · rename_i orig cu ws b hrx hcur
      cases hob : onBatch cfg.file cfg.plan now id b s.fs with
      | mk r fs' =>
        simp only [hob] at h
        cases r with
        | crashed => cases h; exact .crash hrx hcur hob
        | ok =>
          obtain ⟨ch', hb, rfl⟩ := Option.map_eq_some_iff.mp h
          obtain ⟨_, ho, _⟩ | ⟨hheld, hfin, _⟩ := Batcher.rxOutcome_frame _ _ _ _ hrx hb
          · cases ho
          · exact .ok hrx hcur hob hb hfin hheld
        | noRetry =>
          obtain ⟨ch', hb, rfl⟩ := Option.map_eq_some_iff.mp h
          obtain ⟨_, ho, _⟩ | ⟨hheld, hfin, _⟩ := Batcher.rxOutcome_frame _ _ _ _ hrx hb
          · cases ho
          · exact .giveUp hrx hcur hob hb hfin hheld
        | retry b' =>
          obtain ⟨ch', hb, rfl⟩ := Option.map_eq_some_iff.mp h
          obtain ⟨_, ho, _, _, hrx', hfin, _⟩ | ⟨hh, hfin, _⟩ := Batcher.rxOutcome_frame _ _ _ _ hrx hb
          · cases ho
            simp only [hrx']
            exact .retry hrx hcur hob hb hfin (hrx' ▸ rfl)
          · split
            · rename_i h1; rw [h1] at hh; cases hh
            · exact .giveUp hrx hcur hob hb hfin hh
    · simp at h

/-- The composite labels that are steps of the receiver: its channel steps and the conclusions of `on_batch`. -/
def Label.isRx : Label → Bool
  | .chan l => l.isRx
  | .process _ _ => true

/-- A composite execution is an execution of the channel with the same receiver steps — up to the one crash step
    that may end it. -/
theorem run_proj (cfg : Cfg) : ∀ (ls : List Label) (s s' : St), Sched.run (step cfg) s ls = some s' →
    ∃ bls, Sched.run (Batcher.step cfg.ch) s.ch bls = some s'.ch ∧
      (s'.crashed = false → Sched.countSel Batcher.Label.isRx bls = Sched.countSel Label.isRx ls) := by
  intro ls s s' h
  obtain ⟨bls, hb, hc⟩ := Sched.run_proj (proj := St.ch) (sel' := Batcher.Label.isRx) (sel := Label.isRx)
    (off := fun s => s.crashed = true) (fun s l s' hs => by
      cases Step.of_step hs with
      | chan hb | begin hb | ok _ _ _ hb | retry _ _ _ hb | giveUp _ _ _ hb => exact .inl ⟨_, hb, rfl⟩
      | crash => exact .inr ⟨rfl, rfl⟩)
    (fun s l s' hc hs => by simp [step, hc] at hs) ls s s' h
  exact ⟨bls, hb, fun hn => hc (by simp [hn])⟩

theorem reachable_proj (cfg : Cfg) (fs0 : FileSet.St) (s : St) (h : Reachable cfg fs0 s) :
    Batcher.Reachable cfg.ch s.ch :=
  let ⟨ls, hls⟩ := h
  let ⟨bls, hb, _⟩ := run_proj cfg ls _ s hls
  ⟨bls, hb⟩

/-- `held`: of the first-attempt items `orig = done ++ cu`, `done` is kept since the batch began and `cu` is what the
    worker's batch still holds — what a retry hands back and an Ok completes. -/
structure PInv (cfg : Cfg) (E : List Nat → Prop) (c : Nat) (s : St) : Prop where
  fsInv : FileSet.Inv cfg.file E c s.fs
  held : ∀ orig cu, s.ch.rx.held = some (orig, cu) →
    ∃ b done, s.cur = some b ∧ b.Wf ∧ b.rest = cu.map cfg.ev ∧ orig = done ++ cu ∧ s.began ≤ s.fs.log.length ∧
      ∀ x ∈ done, Kept cfg.file c s.began (cfg.ev x) s.fs
  fin : ∀ x ∈ s.ch.finalised, x ∈ s.failed ∨ ∃ L, (x, L) ∈ s.okd
  okd : ∀ p ∈ s.okd, p.2 ≤ s.fs.log.length ∧ Kept cfg.file c p.2 (cfg.ev p.1) s.fs

theorem pinv_step {cfg : Cfg} {E : List Nat → Prop} {c : Nat} (hsep : cfg.file.sep = [c]) (hwf : WfEvents E c)
    (hev : ∀ x, E (cfg.ev x)) (s s' : St) (l : Label) (hi : PInv cfg E c s) (h : step cfg s l = some s') :
    PInv cfg E c s' := by
  obtain ⟨i1, i2, i3, i4⟩ := hi
  -- one `on_batch` call on the held batch: what was kept stays kept
  have hcall : ∀ {orig cu ws b now id r fs'}, s.ch.rx = .processing orig cu ws → s.cur = some b →
      onBatch cfg.file cfg.plan now id b s.fs = (r, fs') →
      ∃ done, b.Wf ∧ b.rest = cu.map cfg.ev ∧ orig = done ++ cu ∧ (∀ e ∈ b.rest, E e) ∧ FileSet.Inv cfg.file E c fs' ∧
        s.began ≤ fs'.log.length ∧ (∀ x ∈ done, Kept cfg.file c s.began (cfg.ev x) fs') ∧
        ∀ p ∈ s.okd, p.2 ≤ fs'.log.length ∧ Kept cfg.file c p.2 (cfg.ev p.1) fs' := by
    intro orig cu ws b now id r fs' hrx hcur hob
    obtain ⟨b0, done, hb0, hwfb, hrest, horig, hbegan, hdone⟩ := i2 orig cu (by rw [hrx]; rfl)
    rw [hcur] at hb0; cases hb0
    have hE : ∀ e ∈ b.rest, E e := by
      rw [hrest]; intro e he; obtain ⟨x, _, rfl⟩ := List.mem_map.mp he; exact hev x
    obtain ⟨k1, k2⟩ := onBatch_keeps hsep cfg.plan now id b s.fs i1 hE
    have hinv' := onBatch_inv (.inl hsep) cfg.plan now id b s.fs hE i1
    rw [hob] at k1 k2 hinv'
    exact ⟨done, hwfb, hrest, horig, hE, hinv', Nat.le_trans hbegan k1, fun x hx => k2 _ _ hbegan (hdone x hx),
      fun p hp => ⟨Nat.le_trans (i4 p hp).1 k1, k2 _ _ (i4 p hp).1 (i4 p hp).2⟩⟩
  cases Step.of_step h with
  | chan hb hfin hheld =>
    refine ⟨i1, fun orig cu hh => ?_, by simpa [hfin] using i3, i4⟩
    rcases hheld with h0 | h0
    · rw [h0] at hh; cases hh
    · exact i2 orig cu (h0 ▸ hh)
  | @begin ch' b fw hb hfin hrx =>
    refine ⟨i1, fun orig cu hh => ?_, by simpa [hfin] using i3, i4⟩
    simp only [hrx, Batcher.Rx.held, Option.some.injEq, Prod.mk.injEq] at hh
    obtain ⟨rfl, rfl⟩ := hh
    exact ⟨_, [], rfl, Batch.wf_ofEvents _, Batch.rest_ofEvents _, by simp, Nat.le_refl _, by simp⟩
  | @crash now id orig cu ws b fs' hrx hcur hob =>
    -- the process is gone; what was kept is still kept in what the crash left
    obtain ⟨done, hwfb, hrest, horig, -, hinv', hbegan, hdone, hokd⟩ := hcall hrx hcur hob
    refine ⟨hinv', fun o cu' hh => ?_, i3, hokd⟩
    simp only [hrx, Batcher.Rx.held, Option.some.injEq, Prod.mk.injEq] at hh
    obtain ⟨rfl, rfl⟩ := hh
    exact ⟨b, done, hcur, hwfb, hrest, horig, hbegan, hdone⟩
  | @giveUp now id orig cu ws b r fs' o ch' hrx hcur hob hb hfin hheld =>
    obtain ⟨done, -, -, -, -, hinv', -, -, hokd⟩ := hcall hrx hcur hob
    refine ⟨hinv', fun o c hh => (by rw [hheld] at hh; cases hh), fun x hx => ?_, hokd⟩
    simp only [hfin, List.mem_append] at hx ⊢
    exact hx.elim (fun hx => (i3 x hx).imp_left .inl) fun hx => .inl (.inr hx)
  | @ok now id orig cu ws b fs' ch' hrx hcur hob hb hfin hheld =>
    obtain ⟨done, hwfb, hrest, horig, hE, hinv', hbegan, hdone, hokd⟩ := hcall hrx hcur hob
    obtain ⟨a, f, _, hm, hget, hd, _, hocc⟩ := C10.acked_durable hsep hwf cfg.plan now id b s.fs fs' i1 hE hob
    refine ⟨hinv', fun o c hh => (by rw [hheld] at hh; cases hh), fun x hx => ?_, fun p hp => ?_⟩
    · simp only [hfin, List.mem_append] at hx ⊢
      exact hx.elim (fun hx => (i3 x hx).imp_right fun ⟨L, h1⟩ => ⟨L, .inl h1⟩) fun hx =>
        .inr ⟨s.began, .inr (List.mem_map.mpr ⟨x, hx, rfl⟩)⟩
    · simp only [List.mem_append, List.mem_map] at hp
      rcases hp with hp | ⟨x, hx, rfl⟩
      · exact hokd p hp
      · refine ⟨hbegan, ?_⟩
        rw [horig] at hx
        rcases List.mem_append.mp hx with hx | hx
        · exact hdone x hx
        · exact ⟨a.name, hm, .inr ⟨f, hget, hd, hocc _ (by rw [hrest]; exact List.mem_map.mpr ⟨x, hx, rfl⟩)⟩⟩
  | @retry now id orig cu ws b b' fs' ch' hrx hcur hob hb hfin hheld =>
    obtain ⟨done, hwfb, hrest, horig, hE, hinv', hbegan, hdone, hokd⟩ := hcall hrx hcur hob
    obtain ⟨pre, hpre, hb', hkept⟩ :=
      C10.retry_kept hsep hwf cfg.plan now id b b' s.fs fs' i1 hE (by rw [hwfb.2]; exact Nat.le_refl _) hob
    have hwf' : b'.Wf := hb' ▸ Batch.wf_foldl_advance pre hwfb hpre
    -- the items that left the batch (`c1`, all kept) and the ones still in the batch handed back (`c2`)
    obtain ⟨c1, c2, rfl, h1, h2⟩ := List.map_eq_append_iff.mp (hrest ▸ hpre)
    have hrem : remainder (c1 ++ c2) b' = c2 := by simp [remainder, ← h2]
    refine ⟨hinv', fun o cu' hh => ?_, by simpa [hfin] using i3, hokd⟩
    simp only [hheld, hrem, Option.some.injEq, Prod.mk.injEq] at hh
    obtain ⟨rfl, rfl⟩ := hh
    refine ⟨b', done ++ c1, rfl, hwf', h2.symm, by rw [horig, List.append_assoc], hbegan, fun x hx => ?_⟩
    rcases List.mem_append.mp hx with hx | hx
    · exact hdone x hx
    · exact hkept _ (h1 ▸ List.mem_map_of_mem hx) _

theorem pinv_reachable {cfg : Cfg} {E : List Nat → Prop} {c : Nat} (hsep : cfg.file.sep = [c]) (hwf : WfEvents E c)
    (hev : ∀ x, E (cfg.ev x)) (fs0 : FileSet.St) (h0 : FileSet.Inv cfg.file E c fs0) (s : St)
    (h : Reachable cfg fs0 s) : PInv cfg E c s :=
  Sched.invariant_of_step
    ⟨h0, by intro o cu h; simp [init, Batcher.init, Batcher.Rx.held] at h, by simp [init, Batcher.init], by simp [init]⟩
    (fun s l s' hi hs => pinv_step hsep hwf hev s s' l hi hs) s h

end EmitModel.FilePipe
