/-
  Lemmas/EncodeFile.lean — C13. `toJson` keeps the float tokens sound (`toJson_numsOk`); the property members of a
  written record are the non-reserved properties, converted one by one (`propFields_ok`).
-/
import EmitModel.Model.FileRecord
import EmitModel.Lemmas.EncodeJson
import EmitModel.Lemmas.EncodeDedup

namespace EmitModel.Encode
open EmitModel.Json

/-! ### the assumption about the opaque float tokens: a finite float's token is a JSON number
    (checked by the harness on every real token, `float_tokens_ok`) -/

mutual
def V.ToksOk : V → Prop
  | .f64 bits tok _ => isFiniteBits bits = true → IsNumber tok.toList
  | .f32 bits tok _ => isFiniteBits bits = true → IsNumber tok.toList
  | .seq xs => V.ToksOkList xs
  | .tuple xs => V.ToksOkList xs
  | .tvar _ xs => V.ToksOkList xs
  | .map kvs => V.ToksOkEntries kvs
  | .record fs => V.ToksOkFields fs
  | .svar _ fs => V.ToksOkFields fs
  | .some v => v.ToksOk
  | .nvar _ v => v.ToksOk
  | _ => True
def V.ToksOkList : List V → Prop
  | [] => True
  | x :: xs => x.ToksOk ∧ V.ToksOkList xs
def V.ToksOkEntries : List (V × V) → Prop
  | [] => True
  | (_, v) :: rest => v.ToksOk ∧ V.ToksOkEntries rest
def V.ToksOkFields : List (String × V) → Prop
  | [] => True
  | (_, v) :: rest => v.ToksOk ∧ V.ToksOkFields rest
end

theorem floatJson_numsOk (bits : UInt64) (tok : String) (h : isFiniteBits bits = true → IsNumber tok.toList) :
    (floatJson bits tok).NumsOk := by
  unfold floatJson
  split
  · rename_i hf; simpa [Json.NumsOk] using h hf
  · simp [Json.NumsOk]

theorem numsOkList_ints (bs : List UInt8) : Json.NumsOkList (bs.map fun b => Json.int b.toNat) := by
  induction bs with
  | nil => simp [Json.NumsOkList]
  | cons b bs ih => simp [Json.NumsOkList, Json.NumsOk, ih]

mutual
theorem toJson_numsOk : (v : V) → v.ToksOk → ∀ j, toJson v = some j → j.NumsOk
  | .null, _, _, rfl | .bool _, _, _, rfl | .int _, _, _, rfl | .text _, _, _, rfl | .uvar _, _, _, rfl => trivial
  | .f64 bits tok _, ht, _, rfl | .f32 bits tok _, ht, _, rfl => floatJson_numsOk bits tok ht
  | .bytes bs, _, _, rfl => numsOkList_ints bs
  | .seq xs, ht, _, h | .tuple xs, ht, _, h => by
    obtain ⟨js, hjs, rfl⟩ := Option.map_eq_some_iff.mp h
    exact toJsonList_numsOk xs ht js hjs
  | .map kvs, ht, _, h => by
    obtain ⟨ms, hms, rfl⟩ := Option.map_eq_some_iff.mp h
    exact toJsonEntries_numsOk kvs ht ms hms
  | .record fs, ht, _, h => by
    obtain ⟨ms, hms, rfl⟩ := Option.map_eq_some_iff.mp h
    exact toJsonFields_numsOk fs ht ms hms
  | .some v, ht, j, h => toJson_numsOk v ht j h
  | .nvar _ v, ht, _, h => by
    obtain ⟨j, hj, rfl⟩ := Option.map_eq_some_iff.mp h
    exact ⟨toJson_numsOk v ht j hj, trivial⟩
  | .svar _ fs, ht, _, h => by
    obtain ⟨ms, hms, rfl⟩ := Option.map_eq_some_iff.mp h
    exact ⟨toJsonFields_numsOk fs ht ms hms, trivial⟩
  | .tvar _ xs, ht, _, h => by
    obtain ⟨js, hjs, rfl⟩ := Option.map_eq_some_iff.mp h
    exact ⟨toJsonList_numsOk xs ht js hjs, trivial⟩
theorem toJsonList_numsOk : (xs : List V) → V.ToksOkList xs → ∀ js, toJsonList xs = some js → Json.NumsOkList js
  | [], _, _, rfl => trivial
  | x :: xs, ht, js, h => by
    simp only [toJsonList] at h
    split at h
    · rename_i j js' hj hjs
      cases h
      exact ⟨toJson_numsOk x ht.1 j hj, toJsonList_numsOk xs ht.2 js' hjs⟩
    · cases h
theorem toJsonEntries_numsOk : (kvs : List (V × V)) → V.ToksOkEntries kvs → ∀ ms, toJsonEntries kvs = some ms →
    Json.NumsOkMembers ms
  | [], _, _, rfl => trivial
  | (k, v) :: rest, ht, ms, h => by
    simp only [toJsonEntries] at h
    split at h
    · rename_i ks j ms' _ hj hms
      cases h
      exact ⟨toJson_numsOk v ht.1 j hj, toJsonEntries_numsOk rest ht.2 ms' hms⟩
    · cases h
theorem toJsonFields_numsOk : (fs : List (String × V)) → V.ToksOkFields fs → ∀ ms, toJsonFields fs = some ms →
    Json.NumsOkMembers ms
  | [], _, _, rfl => trivial
  | (l, v) :: rest, ht, ms, h => by
    simp only [toJsonFields] at h
    split at h
    · rename_i j ms' hj hms
      cases h
      exact ⟨toJson_numsOk v ht.1 j hj, toJsonFields_numsOk rest ht.2 ms' hms⟩
    · cases h
end

def PropsToksOk (ps : List (String × PV)) : Prop := ∀ p ∈ ps, p.2.image.ToksOk

theorem numsOkMembers_iff : ∀ ms : List (String × Json), Json.NumsOkMembers ms ↔ ∀ m ∈ ms, m.2.NumsOk
  | [] => by simp [Json.NumsOkMembers]
  | (k, v) :: rest => by simp [Json.NumsOkMembers, numsOkMembers_iff rest]

/-- A record that was written, read back: the property members are the properties whose key is not reserved, in
    order, each with its value as JSON. Names, membership and the float tokens all follow from this one equation. -/
theorem propFields_ok : ∀ (ps : List (String × PV)) ms, propFields ps = some ms →
    (ps.filter fun p => !reservedKey p.1).map (fun p => (p.1, toJson p.2.image)) = ms.map fun m => (m.1, some m.2)
  | [], _, rfl => rfl
  | (k, v) :: rest, ms, h => by
    simp only [propFields] at h
    split at h
    · rename_i hr
      simpa [hr] using propFields_ok rest ms h
    · rename_i hr
      split at h
      · rename_i j ms' hj hms
        cases h
        simp [hr, hj, propFields_ok rest ms' hms]
      · cases h

theorem propFields_keys (ps : List (String × PV)) (ms : List (String × Json)) (h : propFields ps = some ms) :
    keys ms = (keys ps).filter fun k => !reservedKey k := by
  have := congrArg (List.map Prod.fst) (propFields_ok ps ms h)
  simpa [keys, List.filter_map, Function.comp_def] using this.symm

theorem propFields_mem (ps : List (String × PV)) (ms : List (String × Json)) (h : propFields ps = some ms)
    (k : String) (v : PV) (hm : (k, v) ∈ ps) (hr : reservedKey k = false) :
    ∃ j, toJson v.image = some j ∧ (k, j) ∈ ms := by
  have : (k, toJson v.image) ∈ ms.map fun m => (m.1, some m.2) :=
    propFields_ok ps ms h ▸ List.mem_map.mpr ⟨(k, v), List.mem_filter.mpr ⟨hm, by simp [hr]⟩, rfl⟩
  obtain ⟨m, hm', he⟩ := List.mem_map.mp this
  simp only [Prod.mk.injEq] at he
  obtain ⟨rfl, he⟩ := he
  exact ⟨m.2, he.symm, hm'⟩

theorem propFields_numsOk (ps : List (String × PV)) (ht : PropsToksOk ps) (ms : List (String × Json))
    (h : propFields ps = some ms) : Json.NumsOkMembers ms := by
  refine (numsOkMembers_iff ms).mpr fun m hm => ?_
  have : (m.1, some m.2) ∈ (ps.filter fun p => !reservedKey p.1).map fun p => (p.1, toJson p.2.image) :=
    propFields_ok ps ms h ▸ List.mem_map_of_mem hm
  obtain ⟨p, hp, he⟩ := List.mem_map.mp this
  simp only [Prod.mk.injEq] at he
  exact toJson_numsOk _ (ht p (List.mem_filter.mp hp).1) _ he.2

theorem propFields_none_iff : ∀ (ps : List (String × PV)),
    propFields ps = none ↔ ∃ p ∈ ps, reservedKey p.1 = false ∧ toJson p.2.image = none
  | [] => by simp [propFields]
  | (k, v) :: rest => by
    simp only [propFields, List.mem_cons, exists_eq_or_imp, ← propFields_none_iff rest]
    cases reservedKey k <;> cases toJson v.image <;> cases propFields rest <;> simp

theorem numsOkMembers_append (a b : List (String × Json)) (ha : Json.NumsOkMembers a) (hb : Json.NumsOkMembers b) :
    Json.NumsOkMembers (a ++ b) := by
  rw [numsOkMembers_iff] at ha hb ⊢
  exact List.forall_mem_append.mpr ⟨ha, hb⟩

theorem fixedFields_numsOk (e : Event) : Json.NumsOkMembers (fixedFields e) := by
  unfold fixedFields
  cases e.extent <;> simp [Json.NumsOkMembers, Json.NumsOk]

def fixedNames : List String := ["ts_start", "ts", "mdl", "msg", "tpl"]

theorem reservedKey_iff (k : String) : reservedKey k = true ↔ k ∈ fixedNames := by
  simp [reservedKey, fixedNames, or_assoc]

theorem fixedFields_keys (e : Event) : (keys (fixedFields e)).Sublist fixedNames := by
  unfold fixedFields
  cases e.extent <;> simp [keys, fixedNames]

end EmitModel.Encode
