/-
  Lemmas/Level.lean — for C17: the trie of `MinLevelPathMap` refines longest-prefix lookup. `longest g m` is the
  specification (`g` at the longest prefix of `m` where it is defined); `Node.get` is exact-path lookup on the trie;
  the walk is `longest` over `get` (`walk_eq`) and an insertion changes `get` at one path (`get_insert`), so a trie built
  by insertions answers with the last registration of the longest registered prefix (`lookup_foldl_insert`). Then
  segments against path text: `::` boundaries and `Path::is_child_of`.
-/
import EmitModel.Model.Level
import EmitModel.Base.Assoc

namespace EmitModel.Level
open Std

variable {α β : Type}

/-- non-empty prefixes only -/
def longestBelow (g : List α → Option β) : List α → Option β
  | [] => none
  | s :: rest => (longestBelow (fun q => g (s :: q)) rest).or (g [s])

def longest (g : List α → Option β) (m : List α) : Option β :=
  (longestBelow g m).or (g [])

theorem longestBelow_none (m : List α) : longestBelow (fun _ => (none : Option β)) m = none := by
  induction m with
  | nil => rfl
  | cons s rest ih => simp [longestBelow, ih]

theorem longest_cons (g : List α → Option β) (s : α) (rest : List α) :
    longest g (s :: rest) = (longest (fun q => g (s :: q)) rest).or (g []) := by
  simp [longest, longestBelow, Option.or_assoc]

theorem longest_eq_none_iff (g : List α → Option β) (m : List α) :
    longest g m = none ↔ ∀ j, j ≤ m.length → g (m.take j) = none := by
  induction m generalizing g with
  | nil => simp [longest, longestBelow]
  | cons a l ih =>
    rw [longest_cons, Option.or_eq_none_iff, ih]
    constructor
    · rintro ⟨h1, h2⟩ j hj
      cases j with
      | zero => exact h2
      | succ j => exact h1 j (by simpa using hj)
    · intro h
      exact ⟨fun j hj => h (j + 1) (by simpa using hj), h 0 (by omega)⟩

theorem longest_eq_some_iff (g : List α → Option β) (m : List α) (v : β) :
    longest g m = some v ↔
      ∃ k, k ≤ m.length ∧ g (m.take k) = some v ∧ ∀ j, k < j → j ≤ m.length → g (m.take j) = none := by
  induction m generalizing g with
  | nil => simpa [longest, longestBelow] using fun _ j h1 h2 => by omega
  | cons a l ih =>
    rw [longest_cons, Option.or_eq_some_iff, ih, longest_eq_none_iff]
    constructor
    · rintro (⟨k, hk, hg, hj⟩ | ⟨hnone, hg⟩)
      · refine ⟨k + 1, by simpa using hk, hg, fun j h1 h2 => ?_⟩
        obtain ⟨j, rfl⟩ : ∃ j', j = j' + 1 := ⟨j - 1, by omega⟩
        exact hj j (by omega) (by simpa using h2)
      · refine ⟨0, by omega, hg, fun j h1 h2 => ?_⟩
        obtain ⟨j, rfl⟩ : ∃ j', j = j' + 1 := ⟨j - 1, by omega⟩
        exact hnone j (by simpa using h2)
    · rintro ⟨k, hk, hg, hj⟩
      cases k with
      | zero => exact .inr ⟨fun j hj' => hj (j + 1) (by omega) (by simpa using hj'), hg⟩
      | succ k =>
        exact .inl ⟨k, by simpa using hk, hg, fun j h1 h2 => hj (j + 1) (by omega) (by simpa using h2)⟩

namespace Node
variable (cmp : α → α → Ordering)

mutual
def get : Node α β → List α → Option β
  | .mk l _, [] => l
  | .mk _ cs, s :: rest => getCh cs s rest
def getCh : List (α × Node α β) → α → List α → Option β
  | [], _, _ => none
  | (k, n) :: cs, s, rest =>
    match cmp k s with
    | .lt => getCh cs s rest
    | .eq => get n rest
    | .gt => none
end

/- Neither `walk_eq` nor `get_insert` needs sortedness (both scan alike): it is there for `C17.trie_sorted`. -/
mutual
def Sorted : Node α β → Prop
  | .mk _ cs => SortedCh cs
def SortedCh : List (α × Node α β) → Prop
  | [] => True
  | (k, n) :: cs => Sorted n ∧ (∀ p ∈ cs, cmp k p.1 = .lt) ∧ SortedCh cs
end

/-- the sides swapped, as `simp` needs it in `get_insert`; `ho` is found once `o` is a constructor -/
theorem ne_of_cmp [ReflCmp cmp] {a b : α} {o : Ordering} (h : cmp a b = o) (ho : o ≠ .eq := by decide) : b ≠ a :=
  fun e => ho (h.symm.trans (e ▸ ReflCmp.compare_self))

theorem get_nil (n : Node α β) : get cmp n [] = n.lvl := by
  cases n; simp [get, lvl]

theorem chain_get [LawfulEqCmp cmp] [DecidableEq α] (p q : List α) (f : β) :
    get cmp (chain p f) q = if q = p then some f else none := by
  induction p generalizing q with
  | nil => cases q <;> simp [chain, get, getCh]
  | cons s rest ih =>
    cases q with
    | nil => simp [chain, get]
    | cons s' q =>
      simp only [chain, get, getCh]
      cases h : cmp s s' with
      | lt | gt => simp [ne_of_cmp cmp h]
      | eq =>
        cases LawfulEqCmp.eq_of_compare h
        simp [ih]

theorem walk_eq : ∀ (n : Node α β) (m : List α) (acc : Option β),
    walk cmp n m acc = (longestBelow (get cmp n) m).or acc
  | .mk l cs, [], acc => by simp [walk, longestBelow]
  | .mk l cs, s :: rest, acc => by
    simp only [walk, longestBelow]
    rw [walkCh_eq cs s rest acc]
    simp [get]
  where walkCh_eq : ∀ (cs : List (α × Node α β)) (s : α) (rest : List α) (acc : Option β),
    walkCh cmp cs s rest acc = ((longestBelow (fun q => getCh cmp cs s q) rest).or (getCh cmp cs s [])).or acc
  | [], s, rest, acc => by simp [walkCh, getCh, longestBelow_none]
  | (k, n) :: cs, s, rest, acc => by
    simp only [walkCh, getCh]
    cases h : cmp k s with
    | lt => simp only; exact walkCh_eq cs s rest acc
    | eq => simp only; rw [walk_eq n rest]; simp [get_nil, Option.or_assoc]
    | gt => simp [longestBelow_none]

theorem get_insert [TransCmp cmp] [LawfulEqCmp cmp] [DecidableEq α] : ∀ (n : Node α β) (p q : List α) (f : β),
    get cmp (insert cmp n p f) q = if q = p then some f else get cmp n q
  | .mk l cs, [], q, f => by cases q <;> simp [insert, get]
  | .mk l cs, s :: rest, [], f => by simp [insert, get]
  | .mk l cs, s :: rest, s' :: q, f => by
    simp only [insert, get]
    rw [getCh_insertCh cs s rest s' q f]
    simp
  where getCh_insertCh : ∀ (cs : List (α × Node α β)) (s : α) (rest : List α) (s' : α) (q : List α) (f : β),
    getCh cmp (insertCh cmp cs s rest f) s' q = if s' = s ∧ q = rest then some f else getCh cmp cs s' q
  | [], s, rest, s', q, f => by
    simp only [insertCh, getCh]
    cases h : cmp s s' with
    | lt | gt => simp [ne_of_cmp cmp h]
    | eq => cases LawfulEqCmp.eq_of_compare h; simp [chain_get]
  | (k, n) :: cs, s, rest, s', q, f => by
    simp only [insertCh]
    cases h : cmp k s with
    | lt =>
      simp only [getCh]
      cases h' : cmp k s' with
      | lt => simp only; exact getCh_insertCh cs s rest s' q f
      | eq => cases LawfulEqCmp.eq_of_compare h'
              simp [(ne_of_cmp cmp h).symm]
      | gt => have : s' ≠ s := by rintro rfl; simp [h] at h'
              simp [this]
    | eq =>
      cases LawfulEqCmp.eq_of_compare h
      simp only [getCh]
      cases h' : cmp k s' with
      | lt | gt => simp [ne_of_cmp cmp h']
      | eq => cases LawfulEqCmp.eq_of_compare h'
              simp [get_insert n rest q f]
    | gt =>
      simp only [getCh]
      cases h' : cmp s s' with
      | lt => simp [ne_of_cmp cmp h']
      | eq => cases LawfulEqCmp.eq_of_compare h'
              simp [chain_get, h]
      | gt => -- `s' < s < k`, so the scan for `s'` stops at `k` as it did before the insertion
              have := ne_of_cmp cmp h'
              have h3 : cmp k s' = .gt :=
                OrientedCmp.gt_iff_lt.2 (TransCmp.lt_trans (OrientedCmp.lt_of_gt h') (OrientedCmp.lt_of_gt h))
              simp [this, h3]

theorem chain_sorted (p : List α) (f : β) : Sorted cmp (chain p f) := by
  induction p with
  | nil => simp [chain, Sorted, SortedCh]
  | cons s rest ih => simp [chain, Sorted, SortedCh, ih]

theorem insertCh_lt (cs : List (α × Node α β)) (s : α) (rest : List α) (f : β) (k : α) (hks : cmp k s = .lt)
    (hb : ∀ p ∈ cs, cmp k p.1 = .lt) : ∀ p ∈ insertCh cmp cs s rest f, cmp k p.1 = .lt := by
  induction cs with
  | nil => exact List.forall_mem_cons.2 ⟨hks, nofun⟩
  | cons kn cs ih =>
    obtain ⟨h1, h2⟩ := List.forall_mem_cons.1 hb
    simp only [insertCh]
    split
    · exact List.forall_mem_cons.2 ⟨h1, ih h2⟩
    · exact List.forall_mem_cons.2 ⟨h1, h2⟩
    · exact List.forall_mem_cons.2 ⟨hks, hb⟩

theorem sorted_insert [TransCmp cmp] : ∀ (n : Node α β) (p : List α) (f : β),
    Sorted cmp n → Sorted cmp (insert cmp n p f)
  | .mk l cs, [], f, h => h
  | .mk l cs, s :: rest, f, h => sortedCh_insertCh cs s rest f h
  where sortedCh_insertCh : ∀ (cs : List (α × Node α β)) (s : α) (rest : List α) (f : β),
    SortedCh cmp cs → SortedCh cmp (insertCh cmp cs s rest f)
  | [], s, rest, f, _ => ⟨chain_sorted cmp rest f, nofun, trivial⟩
  | (k, n) :: cs, s, rest, f, ⟨hn, hk, hcs⟩ => by
    simp only [insertCh]
    split
    · next hc => exact ⟨hn, insertCh_lt cmp cs s rest f k hc hk, sortedCh_insertCh cs s rest f hcs⟩
    · exact ⟨sorted_insert n rest f hn, hk, hcs⟩
    · next hc =>
      have h2 : cmp s k = .lt := OrientedCmp.lt_of_gt hc
      exact ⟨chain_sorted cmp rest f, List.forall_mem_cons.2 ⟨h2, fun p hp => TransCmp.lt_trans h2 (hk p hp)⟩, hn, hk,
        hcs⟩

theorem empty_sorted : Sorted cmp (empty : Node α β) := by simp [empty, Sorted, SortedCh]

theorem get_empty (q : List α) : get cmp (empty : Node α β) q = none := by
  cases q <;> simp [empty, get, getCh]

end Node

/-- The payload of the last registration of exactly path `p` (later registrations overwrite). -/
def lastReg [DecidableEq α] : List (List α × β) → List α → Option β
  | [], _ => none
  | (p', f) :: rest, p => (lastReg rest p).or (if p' = p then some f else none)

theorem lastReg_eq_lookupFirst [DecidableEq α] (l : List (List α × β)) (p : List α) :
    lastReg l p = Assoc.lookupFirst p l.reverse := by
  induction l with
  | nil => rfl
  | cons a l ih =>
    obtain ⟨p', f⟩ := a
    rw [lastReg, List.reverse_cons, Assoc.lookupFirst_append, ih]
    rfl

theorem get_foldl_insert (cmp : α → α → Ordering) [TransCmp cmp] [LawfulEqCmp cmp] [DecidableEq α]
    (regs : List (List α × β)) (n : Node α β) (p : List α) :
    Node.get cmp (regs.foldl (fun n r => Node.insert cmp n r.1 r.2) n) p = (lastReg regs p).or (Node.get cmp n p) := by
  induction regs generalizing n with
  | nil => simp [lastReg]
  | cons r rest ih =>
    obtain ⟨p', f⟩ := r
    simp only [List.foldl_cons, ih, Node.get_insert, lastReg, eq_comm (a := p')]
    split <;> simp

theorem lookup_foldl_insert (cmp : α → α → Ordering) [TransCmp cmp] [LawfulEqCmp cmp] [DecidableEq α]
    (regs : List (List α × β)) (m : List α) :
    Node.lookup cmp (regs.foldl (fun n r => Node.insert cmp n r.1 r.2) Node.empty) m = longest (lastReg regs) m := by
  have e : Node.get cmp (regs.foldl (fun n r => Node.insert cmp n r.1 r.2) Node.empty) = lastReg regs :=
    funext fun q => by rw [get_foldl_insert, Node.get_empty, Option.or_none]
  rw [Node.lookup, Node.walk_eq, ← Node.get_nil cmp, e, longest]

theorem sorted_foldl_insert (cmp : α → α → Ordering) [TransCmp cmp]
    (regs : List (List α × β)) (n : Node α β) (h : Node.Sorted cmp n) :
    Node.Sorted cmp (regs.foldl (fun n r => Node.insert cmp n r.1 r.2) n) := by
  induction regs generalizing n with
  | nil => simpa
  | cons r rest ih => exact ih _ (Node.sorted_insert cmp n r.1 r.2 h)

/-- stronger than what `Path::segments` yields (a segment may hold a single `:`) -/
def ColonFree (s : List Char) : Prop := ∀ c ∈ s, c ≠ ':'

theorem splitColons_cons_ne (c : Char) (rest cur : List Char) (hc : c ≠ ':') :
    splitColons (c :: rest) cur = splitColons rest (c :: cur) := by
  -- the catch-all equation, whose side condition is that `c :: rest` does not start with `::`
  rw [splitColons]
  exact fun _ h _ => hc h

theorem splitColons_append (seg tail cur : List Char) (h : ColonFree seg) :
    splitColons (seg ++ tail) cur = splitColons tail (seg.reverse ++ cur) := by
  induction seg generalizing cur with
  | nil => simp
  | cons c rest ih =>
    have hc : c ≠ ':' := h c (by simp)
    have hr : ColonFree rest := fun d hd => h d (by simp [hd])
    simp only [List.cons_append]
    rw [splitColons_cons_ne _ _ _ hc, ih _ hr]; simp

/-- Splitting inverts joining, also in front of a tail that is empty or starts with `::` (whose own first piece, the
    empty one, closes the last segment). -/
theorem splitColons_join_append (ps : List (List Char)) (hne : ps ≠ []) (h : ∀ s ∈ ps, ColonFree s) (t : List Char)
    (ht : t = [] ∨ ∃ r, t = ':' :: ':' :: r) :
    splitColons (joinSegs ps ++ t) [] = ps ++ (splitColons t []).tail := by
  induction ps with
  | nil => exact absurd rfl hne
  | cons p rest ih =>
    cases rest with
    | nil =>
      rw [joinSegs, splitColons_append p t [] (h p (by simp))]
      rcases ht with rfl | ⟨r, rfl⟩ <;> simp [splitColons]
    | cons q rest =>
      rw [joinSegs, List.append_assoc, splitColons_append p _ [] (h p (by simp)), List.cons_append, List.cons_append,
        splitColons, ih (by simp) fun x hx => h x (by simp [hx])]
      simp

def IsChild (child parent : List Char) : Prop :=
  ∃ r, child = parent ++ r ∧ (r = [] ∨ ∃ r', r = ':' :: ':' :: r')

theorem isChildOf_iff (child parent : List Char) : isChildOf child parent = true ↔ IsChild child parent := by
  unfold isChildOf IsChild
  simp only [Bool.and_eq_true, Bool.or_eq_true, List.isEmpty_iff, beq_iff_eq]
  constructor
  · rintro ⟨hp, hr⟩
    obtain ⟨r, rfl⟩ := List.isPrefixOf_iff_prefix.mp hp
    refine ⟨r, rfl, ?_⟩
    simp only [List.drop_left] at hr
    rcases hr with h | h
    · exact Or.inl h
    · exact .inr ⟨r.drop 2, by rw [← List.take_append_drop 2 r, h]; rfl⟩
  · rintro ⟨r, rfl, hr⟩
    refine ⟨List.isPrefixOf_iff_prefix.mpr ⟨r, rfl⟩, ?_⟩
    simp only [List.drop_left]
    rcases hr with rfl | ⟨r', rfl⟩
    · exact Or.inl rfl
    · right; simp

def tailJoin : List (List Char) → List Char
  | [] => []
  | t :: rest => ':' :: ':' :: joinSegs (t :: rest)

theorem joinSegs_cons (s : List Char) (rest : List (List Char)) : joinSegs (s :: rest) = s ++ tailJoin rest := by
  cases rest <;> simp [joinSegs, tailJoin]

theorem joinSegs_append (ps ext : List (List Char)) (hp : ps ≠ []) :
    joinSegs (ps ++ ext) = joinSegs ps ++ tailJoin ext := by
  induction ps with
  | nil => exact absurd rfl hp
  | cons p ps ih =>
    cases ps with
    | nil => simp [joinSegs_cons, joinSegs]
    | cons q ps =>
      rw [List.cons_append, joinSegs_cons, joinSegs_cons p]
      have := ih (by simp)
      simp only [tailJoin, List.cons_append] at this ⊢
      rw [this]; simp

theorem prefix_iff_child (ps ms : List (List Char)) (hp : ps ≠ []) (hm : ms ≠ [])
    (hps : ∀ s ∈ ps, ColonFree s) (hms : ∀ s ∈ ms, ColonFree s) :
    IsChild (joinSegs ms) (joinSegs ps) ↔ ps <+: ms := by
  constructor
  · rintro ⟨r, hr, hrs⟩
    have := splitColons_join_append ms hm hms [] (.inl rfl)
    rw [List.append_nil, hr, splitColons_join_append ps hp hps r hrs] at this
    exact ⟨_, by simpa [splitColons] using this⟩
  · rintro ⟨ext, rfl⟩
    refine ⟨tailJoin ext, joinSegs_append _ _ hp, ?_⟩
    cases ext with
    | nil => exact .inl rfl
    | cons t r => exact .inr ⟨_, rfl⟩

end EmitModel.Level
