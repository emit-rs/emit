/-
  Lemmas/Pipeline.lean — helper lemmas for Model/Pipeline.lean: what filters and emitters deliver (C01), and the
  first-wins lookup over `insertProp` and `NoKey` (C17).

  `Flt` and `Emt` are nested inductives (through `Option`), which the `induction` tactic rejects: a proof over a tree
  (`calls_dlv`) goes by `fun_induction` on the function the statement is about.
-/
import EmitModel.Model.Pipeline

namespace EmitModel.Pipeline

/-- A filter's own log holds no delivery. -/
theorem calls_dlv (ρ : Nat → Evt → Bool) (f : Flt) (x : Evt) :
    (f.evalTrace ρ x).2.filterMap Obs.dlv? = [] := by
  fun_induction Flt.evalTrace ρ f x <;> simp_all +zetaDelta [Obs.dlv?]

section deliver
variable (ρ : Nat → Evt → Bool) (μ : Nat → Evt → Evt)

@[simp] theorem deliver_leaf (i : Nat) (x : Evt) : (Emt.leaf i).deliver ρ μ x = [(i, x)] := rfl
@[simp] theorem deliver_fnLeaf (i : Nat) (x : Evt) : (Emt.fnLeaf i).deliver ρ μ x = [(i, x)] := rfl
@[simp] theorem deliver_empty (x : Evt) : Emt.empty.deliver ρ μ x = [] := rfl
@[simp] theorem deliver_optNone (x : Evt) : (Emt.opt none).deliver ρ μ x = [] := rfl
@[simp] theorem deliver_optSome (e : Emt) (x : Evt) : (Emt.opt (some e)).deliver ρ μ x = e.deliver ρ μ x := rfl
@[simp] theorem deliver_and (a b : Emt) (x : Evt) :
    (Emt.and a b).deliver ρ μ x = a.deliver ρ μ x ++ b.deliver ρ μ x := by
  simp [Emt.deliver, Emt.run]
@[simp] theorem deliver_wrapMap (g : Nat) (e : Emt) (x : Evt) :
    (Emt.wrapMap g e).deliver ρ μ x = e.deliver ρ μ (μ g x) := rfl
@[simp] theorem deliver_ref (e : Emt) (x : Evt) : (Emt.ref e).deliver ρ μ x = e.deliver ρ μ x := rfl
@[simp] theorem deliver_boxed (e : Emt) (x : Evt) : (Emt.boxed e).deliver ρ μ x = e.deliver ρ μ x := rfl
@[simp] theorem deliver_shared (e : Emt) (x : Evt) : (Emt.shared e).deliver ρ μ x = e.deliver ρ μ x := rfl
@[simp] theorem deliver_erased (e : Emt) (x : Evt) : (Emt.erased e).deliver ρ μ x = e.deliver ρ μ x := rfl
@[simp] theorem deliver_internal (e : Emt) (x : Evt) : (Emt.internal e).deliver ρ μ x = e.deliver ρ μ x := rfl

/-- Behind a filter, what is delivered is what the guarded part delivers if the filter accepts. -/
theorem gated_dlv (f : Flt) (x : Evt) (ys : List Obs) :
    ((f.evalTrace ρ x).2 ++ if (f.evalTrace ρ x).1 then ys else []).filterMap Obs.dlv? =
      if f.eval ρ x then ys.filterMap Obs.dlv? else [] := by
  rw [List.filterMap_append, calls_dlv, List.nil_append]
  show (if f.eval ρ x then ys else []).filterMap Obs.dlv? = _
  split <;> rfl

theorem emitCore_dlv (k : Evt → List Obs) (f : Flt) (amb : List (String × Val)) (clk : Option Nat) (x : Evt) :
    (emitCore k (f.evalTrace ρ) amb clk x).filterMap Obs.dlv? =
      if f.eval ρ (build amb clk x) then (k (build amb clk x)).filterMap Obs.dlv? else [] :=
  gated_dlv ρ f _ _

@[simp] theorem deliver_wrapFilter (f : Flt) (e : Emt) (x : Evt) :
    (Emt.wrapFilter f e).deliver ρ μ x = if f.eval ρ x then e.deliver ρ μ x else [] :=
  gated_dlv ρ f x _

@[simp] theorem deliver_runtime (f : Flt) (amb : List (String × Val)) (clk : Option Nat) (e : Emt) (x : Evt) :
    (Emt.runtime f amb clk e).deliver ρ μ x =
      if f.eval ρ (build amb clk x) then e.deliver ρ μ (build amb clk x) else [] := by
  simp only [Emt.deliver, Emt.run, emitCore_dlv]

end deliver

def NoKey (k : String) (props : List (String × Val)) : Prop := ∀ p ∈ props, p.1 ≠ k

theorem lookupFirst_append_of_noKey (k : String) (a b : List (String × Val)) (h : NoKey k a) :
    lookupFirst k (a ++ b) = lookupFirst k b := by
  induction a with
  | nil => rfl
  | cons p a ih =>
    obtain ⟨k', v⟩ := p
    have hk : k' ≠ k := h (k', v) (by simp)
    have : (k' == k) = false := by simpa using hk
    simp only [List.cons_append, lookupFirst, this]
    exact ih (fun q hq => h q (by simp [hq]))

theorem lookupFirst_insertProp_append (k : String) (v : Val) (props rest : List (String × Val)) (h : NoKey k props) :
    lookupFirst k (insertProp k v props ++ rest) = some v := by
  induction props with
  | nil => simp [insertProp, lookupFirst]
  | cons p props ih =>
    obtain ⟨k', v'⟩ := p
    have hk : k' ≠ k := h (k', v') (by simp)
    have hb : (k' == k) = false := by simpa using hk
    simp only [insertProp]
    split
    · simp [lookupFirst]
    · simp only [List.cons_append, lookupFirst, hb]
      exact ih (fun q hq => h q (by simp [hq]))

theorem lookupFirst_insertProp (k : String) (v : Val) (props : List (String × Val)) (h : NoKey k props) :
    lookupFirst k (insertProp k v props) = some v := by
  simpa using lookupFirst_insertProp_append k v props [] h

theorem lvl_lookupFirst (k : String) (props : List (String × Val)) :
    EmitModel.Level.lookupFirst k (lvlProps props) = (lookupFirst k props).map Val.toLvlVal := by
  induction props with
  | nil => rfl
  | cons p props ih =>
    obtain ⟨k', v⟩ := p
    simp only [lvlProps, List.map_cons, EmitModel.Level.lookupFirst, lookupFirst]
    split
    · rfl
    · simpa [lvlProps] using ih

end EmitModel.Pipeline
