/-
  Lemmas/Template.lean — C16, the runtime half (Model/Template.lean): the equality loop decides equality of the atom
  streams from any reachable cursor (`eqLoop_spec`), and the atom stream carries what the normal form carries; the
  specification vocabulary of rendering (`partBytes`, `partEv`, `feed`, `atomBytes`) with what the string writer and the
  recording writer make of it; the conversions are identities.
-/
import EmitModel.Model.Template
namespace EmitModel.Template

theorem restEmpty_iff (ps : List Part) : restEmpty ps = true ↔ atoms ps = [] := by
  induction ps with
  | nil => simp [restEmpty, atoms]
  | cons p ps ih =>
    cases p with
    | text t =>
      simp only [restEmpty, List.all_cons, atoms, Bool.and_eq_true, List.append_eq_nil_iff, List.map_eq_nil_iff] at ih ⊢
      simp [ih]
    | hole l f => simp [restEmpty, atoms]

theorem atoms_append (a b : List Part) : atoms (a ++ b) = atoms a ++ atoms b := by
  induction a with
  | nil => rfl
  | cons p a ih => cases p <;> simp [atoms, ih]

/-- Cursor invariant of the loop: the byte offset is 0, or points strictly inside the text part under the cursor. -/
def Inv (as : List Part) (ati : Nat) : Prop :=
  ati = 0 ∨ ∃ a as', as = .text a :: as' ∧ ati < a.length

theorem Inv.zero (as : List Part) : Inv as 0 := Or.inl rfl

theorem Inv.nil {ati : Nat} (h : Inv [] ati) : ati = 0 := by
  rcases h with h | ⟨a, as', h, _⟩
  · exact h
  · cases h

theorem Inv.hole {l f as ati} (h : Inv (.hole l f :: as) ati) : ati = 0 := by
  rcases h with h | ⟨a, as', h, _⟩
  · exact h
  · cases h

theorem Inv.text_lt {a as ati} (h : Inv (.text a :: as) ati) (hne : ¬ a.isEmpty = true) : ati < a.length := by
  have : 0 < a.length := by
    cases a with
    | nil => simp at hne
    | cons => simp
  rcases h with h | ⟨a', as', h, hlt⟩
  · omega
  · cases h; exact hlt

theorem Inv.text_empty {a as ati} (h : Inv (.text a :: as) ati) (he : a.isEmpty = true) : ati = 0 := by
  rcases h with h | ⟨a', as', h, hlt⟩
  · exact h
  · cases h; simp [List.isEmpty_iff] at he; subst he; simp at hlt

theorem Inv.text_mk {a as ati} (h : ati < a.length) : Inv (.text a :: as) ati := Or.inr ⟨a, as, rfl, h⟩

theorem drop_atoms_text (a : List UInt8) (as : List Part) (ati : Nat) (h : ati ≤ a.length) :
    (atoms (.text a :: as)).drop ati = (a.drop ati).map Atom.byte ++ atoms as := by
  simp only [atoms]
  rw [List.drop_append_of_le_length (by simpa using h), List.map_drop]

theorem map_byte_inj {x y : List UInt8} (h : x.map Atom.byte = y.map Atom.byte) : x = y :=
  (List.map_inj_right fun _ _ e => Atom.byte.inj e).1 h

/-- Past the loop: what is left of one side equals nothing iff it is all empty text. -/
theorem drop_atoms_eq_nil (as : List Part) (ati : Nat) (ha : Inv as ati) :
    (atoms as).drop ati = [] ↔ restEmpty as = true := by
  rw [restEmpty_iff]
  rcases ha with rfl | ⟨a, as', rfl, hlt⟩
  · simp
  · rw [List.drop_eq_nil_iff]
    simp only [atoms, List.length_append, List.length_map, List.append_eq_nil_iff, List.map_eq_nil_iff]
    constructor
    · intro h; omega
    · rintro ⟨rfl, _⟩; simp at hlt

theorem text_ne_hole {a : List UInt8} {ati : Nat} (h : ati < a.length) (r : List Atom) (l : List UInt8)
    (r' : List Atom) : (a.map Atom.byte).drop ati ++ r ≠ Atom.hole l :: r' := by
  rw [← List.map_drop]
  cases hd : a.drop ati with
  | nil => rw [List.drop_eq_nil_iff] at hd; omega
  | cons x xs => simp

theorem eqLoop_spec (as : List Part) (ati : Nat) (bs : List Part) (bti : Nat)
    (ha : Inv as ati) (hb : Inv bs bti) :
    eqLoop as ati bs bti = .ok (decide ((atoms as).drop ati = (atoms bs).drop bti)) := by
  fun_induction eqLoop as ati bs bti
  case case1 ati bti bs =>
    congr 1
    rw [Bool.eq_iff_iff, ← drop_atoms_eq_nil bs bti hb]
    simp only [atoms, List.drop_nil, decide_eq_true_eq]
    exact eq_comm
  case case2 ati bti ap as =>
    congr 1
    rw [Bool.eq_iff_iff, ← drop_atoms_eq_nil _ ati ha]
    simp [atoms]
  -- an empty fragment under either cursor is skipped: its offset is 0 and it contributes no atom
  case case3 ati bti a as b bs he ih | case11 ati bti a as lb fb bs he ih =>
    have h0 := ha.text_empty he
    subst h0
    rw [ih (Inv.zero _) hb]
    simp only [List.isEmpty_iff] at he
    subst he
    simp [atoms]
  case case4 ati bti a as b bs _ he ih | case13 ati bti la fa as b bs he ih =>
    have h0 := hb.text_empty he
    subst h0
    rw [ih ha (Inv.zero _)]
    simp only [List.isEmpty_iff] at he
    subst he
    simp [atoms]
  -- both fragments have bytes left and `len`, the shorter remainder, is compared: 5 = a mismatch within it
  case case5 ati bti a as b bs hna hnb hle len hne =>
    have hlta := ha.text_lt hna
    have hltb := hb.text_lt hnb
    rw [drop_atoms_text a as ati hle.1, drop_atoms_text b bs bti hle.2]
    congr 1
    symm
    rw [decide_eq_false_iff_not]
    intro heq
    have h2 := congrArg (List.take len) heq
    have la : len ≤ ((a.drop ati).map Atom.byte).length := by simp [len]; omega
    have lb : len ≤ ((b.drop bti).map Atom.byte).length := by simp [len]; omega
    rw [List.take_append_of_le_length la, List.take_append_of_le_length lb, ← List.map_take, ← List.map_take] at h2
    have := map_byte_inj h2
    simp [this] at hne
  -- no mismatch, and 6 = both fragments are used up, 7 = only `a`, 8 = only `b`
  case case6 ati bti a as b bs hna hnb hle len hne h1 h2 ih =>
    rw [drop_atoms_text a as ati hle.1, drop_atoms_text b bs bti hle.2, ih (Inv.zero _) (Inv.zero _)]
    have e1 : (a.drop ati).take len = a.drop ati := List.take_of_length_le (by simp; omega)
    have e2 : (b.drop bti).take len = b.drop bti := List.take_of_length_le (by simp; omega)
    have e : a.drop ati = b.drop bti := by
      rw [e1, e2] at hne; simpa using hne
    rw [e]
    simp
  case case7 ati bti a as b bs hna hnb hle len hne h1 h2 ih =>
    have hltb : bti + len < b.length := by simp only [len] at h1 h2 ⊢; omega
    rw [drop_atoms_text a as ati hle.1, drop_atoms_text b bs bti hle.2, ih (Inv.zero _) (Inv.text_mk hltb),
      drop_atoms_text b bs (bti + len) (by omega)]
    have e1 : (a.drop ati).take len = a.drop ati := List.take_of_length_le (by simp; omega)
    have e : b.drop bti = a.drop ati ++ b.drop (bti + len) := by
      rw [e1] at hne
      have : a.drop ati = (b.drop bti).take len := by simpa using hne
      rw [this, ← List.drop_drop, List.take_append_drop]
    rw [e]
    simp
  case case8 ati bti a as b bs hna hnb hle len hne h1 h2 ih =>
    have hlta : ati + len < a.length := by simp only [len] at h1 h2 ⊢; omega
    rw [drop_atoms_text a as ati hle.1, drop_atoms_text b bs bti hle.2, ih (Inv.text_mk hlta) (Inv.zero _),
      drop_atoms_text a as (ati + len) (by omega)]
    have e2 : (b.drop bti).take len = b.drop bti := List.take_of_length_le (by simp; omega)
    have e : a.drop ati = b.drop bti ++ a.drop (ati + len) := by
      rw [e2] at hne
      have : (a.drop ati).take len = b.drop bti := by simpa using hne
      rw [← this, ← List.drop_drop, List.take_append_drop]
    rw [e]
    simp
  case case9 ati bti a as b bs hna hnb hle len hne h1 h2 ih =>
    exfalso
    simp only [len] at h1 h2
    omega
  case case10 ati bti a as b bs hna hnb hle =>
    exfalso
    have := ha.text_lt hna
    have := hb.text_lt hnb
    omega
  case case12 ati bti a as lb fb bs hna =>
    have h0 := hb.hole
    subst h0
    rw [drop_atoms_text a as ati (by have := ha.text_lt hna; omega)]
    simp [atoms, text_ne_hole (ha.text_lt hna)]
  case case14 ati bti la fa as b bs hnb =>
    have h0 := ha.hole
    subst h0
    rw [drop_atoms_text b bs bti (by have := hb.text_lt hnb; omega)]
    simp [atoms, (text_ne_hole (hb.text_lt hnb) _ _ _).symm]
  case case15 ati bti la fa as lb fb bs hne =>
    have h0 := ha.hole
    have h1 := hb.hole
    subst h0 h1
    simp only [bne_iff_ne, ne_eq] at hne
    simp [atoms, hne]
  case case16 ati bti la fa as lb fb bs hne ih =>
    have h0 := ha.hole
    have h1 := hb.hole
    subst h0 h1
    rw [ih (Inv.zero _) (Inv.zero _)]
    simp only [bne_iff_ne, ne_eq, Decidable.not_not] at hne
    simp [atoms, hne]

/-- The atoms of a normal form: the left inverse by which `norm` determines `atoms` (`ungroup_norm`). -/
def ungroup : List Seg → List Atom
  | [] => []
  | .text t :: r => t.map Atom.byte ++ ungroup r
  | .hole l :: r => Atom.hole l :: ungroup r

theorem ungroup_consText (t : List UInt8) (r : List Seg) : ungroup (consText t r) = t.map Atom.byte ++ ungroup r := by
  unfold consText
  split
  · simp [ungroup]
  · split
    · simp_all
    · simp [ungroup]

theorem ungroup_norm (ps : List Part) : ungroup (norm ps) = atoms ps := by
  induction ps with
  | nil => rfl
  | cons p ps ih =>
    cases p with
    | text t => simp [norm, atoms, ungroup_consText, ih]
    | hole l f => simp [norm, atoms, ungroup, ih]

/-- Regroup an atom stream into normal form. -/
def group : List Atom → List Seg
  | [] => []
  | .byte b :: r => consText [b] (group r)
  | .hole l :: r => .hole l :: group r

theorem consText_nil (r : List Seg) : consText [] r = r := by
  unfold consText
  split <;> simp

theorem consText_cons (c : UInt8) (t : List UInt8) (r : List Seg) :
    consText [c] (consText t r) = consText (c :: t) r := by
  cases r with
  | nil => by_cases h : t = [] <;> simp [consText, h]
  | cons s r =>
    cases s with
    | text u => simp [consText]
    | hole l => by_cases h : t = [] <;> simp [consText, h]

theorem group_bytes (t : List UInt8) (r : List Atom) : group (t.map Atom.byte ++ r) = consText t (group r) := by
  induction t with
  | nil => simp [consText_nil]
  | cons c t ih => simp only [List.map_cons, List.cons_append, group, ih, consText_cons]

theorem group_atoms (ps : List Part) : group (atoms ps) = norm ps := by
  induction ps with
  | nil => rfl
  | cons p ps ih =>
    cases p with
    | text t => simp [norm, atoms, group_bytes, ih]
    | hole l f => simp [norm, atoms, group, ih]

theorem norm_eq_iff_atoms_eq (a b : List Part) : norm a = norm b ↔ atoms a = atoms b := by
  constructor
  · intro h; rw [← ungroup_norm a, ← ungroup_norm b, h]
  · intro h; rw [← group_atoms a, ← group_atoms b, h]

/-- What one part contributes to the default rendering. -/
def partBytes (tbl : Nat → Val → List UInt8) (props : List (List UInt8 × Val)) : Part → List UInt8
  | .text t => t
  | .hole l f =>
    match lookupFirst l props with
    | some v => (match f with | some f => tbl f v | none => v.display)
    | none => [0x7b] ++ l ++ [0x7d]

theorem write_string (tbl : Nat → Val → List UInt8) (props : List (List UInt8 × Val)) (p : Part) (s : List UInt8) :
    p.write (stringWriter tbl) props s = (s ++ partBytes tbl props p, true) := by
  cases p with
  | text t => rfl
  | hole l f =>
    simp only [Part.write, partBytes]
    cases lookupFirst l props with
    | none => simp [stringWriter]
    | some v => cases f <;> rfl

theorem render_spec (tbl : Nat → Val → List UInt8) (props : List (List UInt8 × Val)) (parts : List Part)
    (s : List UInt8) :
    render (stringWriter tbl) props parts s = (s ++ (parts.map (partBytes tbl props)).flatten, true) := by
  induction parts generalizing s with
  | nil => simp [render]
  | cons p ps ih => simp [render, write_string, ih]

/-- The callback a part triggers depends on the part and the properties only. -/
def partEv (props : List (List UInt8 × Val)) : Part → Ev
  | .text t => .text t
  | .hole l f =>
    match lookupFirst l props with
    | some v => (match f with | some f => .holeFmt l v f | none => .holeValue l v)
    | none => .holeLabel l

def Writer.handle {σ : Type} (w : Writer σ) (s : σ) : Ev → σ × Bool
  | .text t => w.writeText s t
  | .holeValue l v => w.writeHoleValue s l v
  | .holeFmt l v f => w.writeHoleFmt s l v f
  | .holeLabel l => w.writeHoleLabel s l

/-- Feed callbacks to a writer in order, stopping at the first one that fails. -/
def feed {σ : Type} (w : Writer σ) : List Ev → σ → σ × Bool
  | [], s => (s, true)
  | e :: es, s =>
    match w.handle s e with
    | (s', true) => feed w es s'
    | (s', false) => (s', false)

theorem handle_rec_ok (failAt : Option Nat) (pre : List Ev) (e : Ev) (h : failAt ≠ some pre.length) :
    (recWriter failAt).handle pre e = (pre ++ [e], true) := by
  cases e <;> simp [Writer.handle, recWriter, h]

theorem handle_rec_fail (pre : List Ev) (e : Ev) :
    (recWriter (some pre.length)).handle pre e = (pre, false) := by
  cases e <;> simp [Writer.handle, recWriter]

theorem feed_rec_none (evs pre : List Ev) : feed (recWriter none) evs pre = (pre ++ evs, true) := by
  induction evs generalizing pre with
  | nil => simp [feed]
  | cons e es ih => simp [feed, handle_rec_ok none pre e (by simp), ih]

theorem feed_rec_some (k : Nat) (evs pre : List Ev) (hp : pre.length ≤ k) :
    feed (recWriter (some k)) evs pre = (pre ++ evs.take (k - pre.length), decide (pre.length + evs.length ≤ k)) := by
  induction evs generalizing pre with
  | nil => simp [feed, hp]
  | cons e es ih =>
    by_cases hk : k = pre.length
    · subst hk
      simp [feed, handle_rec_fail]
    · have hlt : (pre ++ [e]).length ≤ k := by simp; omega
      have h3 : k - pre.length = (k - (pre ++ [e]).length) + 1 := by simp; omega
      rw [feed, handle_rec_ok (some k) pre e (by simpa using hk)]
      simp only []  -- reduces the `match` on the pair `feed` got back
      rw [ih _ hlt, h3, List.take_succ_cons]
      simp only [List.append_assoc, List.singleton_append, List.length_append, List.length_cons, List.length_nil]
      have : (pre.length + (0 + 1) + es.length ≤ k) ↔ (pre.length + (es.length + 1) ≤ k) := by omega
      simp only [this]

theorem toOwned_id (ps : List Part) : toOwned ps = ps := by
  induction ps with
  | nil => rfl
  | cons p ps ih => cases p <;> simp_all [toOwned, Part.toOwned]

theorem byRef_id (ps : List Part) : byRef ps = ps := by
  induction ps with
  | nil => rfl
  | cons p ps ih => cases p <;> simp_all [byRef, Part.byRef]

/-- No hole carries a formatter. -/
def NoFmt (ps : List Part) : Prop := ∀ l f, Part.hole l f ∈ ps → f = none

def atomBytes (props : List (List UInt8 × Val)) : Atom → List UInt8
  | .byte b => [b]
  | .hole l => match lookupFirst l props with
    | some v => v.display
    | none => [0x7b] ++ l ++ [0x7d]

theorem flatten_bytes (props : List (List UInt8 × Val)) (t : List UInt8) :
    ((t.map Atom.byte).map (atomBytes props)).flatten = t := by
  induction t with
  | nil => rfl
  | cons c t ih => simp_all [atomBytes]

theorem flatten_partBytes_of_noFmt (tbl : Nat → Val → List UInt8) (props : List (List UInt8 × Val)) (ps : List Part)
    (h : NoFmt ps) : (ps.map (partBytes tbl props)).flatten = ((atoms ps).map (atomBytes props)).flatten := by
  induction ps with
  | nil => rfl
  | cons p ps ih =>
    have h' : NoFmt ps := fun l f hm => h l f (by simp [hm])
    cases p with
    | text t =>
      simp only [List.map_cons, List.flatten_cons, partBytes, atoms, List.map_append, List.flatten_append, ih h',
        flatten_bytes]
    | hole l f =>
      have : f = none := h l f (by simp)
      subst this
      simp only [List.map_cons, List.flatten_cons, partBytes, atoms, atomBytes, ih h']

end EmitModel.Template
