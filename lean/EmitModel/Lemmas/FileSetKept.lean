/-
  Lemmas/FileSetKept.lean — "event `e` is kept" (`Kept`), monotone along everything the worker does afterwards
  (`Rel`): what the whole-batch durability theorem over the batcher's retry loop and the pipeline's invariant say.
-/
import EmitModel.Lemmas.FileSetWalk

namespace EmitModel.FileSet

/-- Event `e` is in synced content of a durable file of the set, complete and on a record boundary — or the worker
    itself deleted a file of the set (retention) after log position `L`: the deletion arm names some member, it is
    not tied to `e` or to the file that held it. -/
def Kept (cfg : Config) (c : Nat) (L : Nat) (e : List Nat) (s : St) : Prop :=
  ∃ n, isMember cfg.pfx cfg.ext n = true ∧
    (Ev.deleted n ∈ s.log.drop L ∨ ∃ f, fsGet s.fs n = some f ∧ f.durable = true ∧ Occurs c e f.synced)

theorem Kept.mono {cfg : Config} {c L : Nat} {e : List Nat} {s s' : St} (h : Kept cfg c L e s)
    (hL : L ≤ s.log.length) (hrel : Rel cfg (fun _ => True) s s') : Kept cfg c L e s' := by
  obtain ⟨n, hm, hk⟩ := h
  obtain ⟨⟨extra, hlog, _, _, hdur⟩, _⟩ := hrel
  refine ⟨n, hm, ?_⟩
  rcases hk with hdel | ⟨f, hget, hd, hocc⟩
  · left
    rw [hlog, List.drop_append_of_le_length hL]
    exact List.mem_append_left _ hdel
  · rcases hdur n f hget hd with hdel | ⟨f', hget', hd', hpre⟩
    · left
      rw [hlog, List.drop_append_of_le_length hL]
      exact List.mem_append_right _ hdel
    · right
      obtain ⟨t, ht⟩ := hpre
      exact ⟨f', hget', hd', by rw [← ht]; exact hocc.append t⟩

theorem Kept.weakenL {cfg : Config} {c L L' : Nat} {e : List Nat} {s : St} (h : Kept cfg c L' e s) (hL : L ≤ L') :
    Kept cfg c L e s := by
  obtain ⟨n, hm, hk⟩ := h
  refine ⟨n, hm, ?_⟩
  rcases hk with hdel | hk
  · left
    have : s.log.drop L' = (s.log.drop L).drop (L' - L) := by rw [List.drop_drop]; congr 1; omega
    rw [this] at hdel
    exact List.mem_of_mem_drop hdel
  · exact .inr hk

theorem onBatch_keeps {cfg : Config} {E : List Nat → Prop} {c : Nat} (hsep : cfg.sep = [c]) (plan : Nat → Fault)
    (now : Parts) (id : Nat) (b : Batch) (s : St) (hinv : Inv cfg E c s) (hE : ∀ e ∈ b.rest, E e) :
    s.log.length ≤ (onBatch cfg plan now id b s).2.log.length ∧
      ∀ L e, L ≤ s.log.length → Kept cfg c L e s → Kept cfg c L e (onBatch cfg plan now id b s).2 := by
  have hrel : Rel cfg (fun _ => True) s (onBatch cfg plan now id b s).2 :=
    onBatch_rel (.inl hsep) plan now id b s trivial hE hinv
  refine ⟨?_, fun L e hL hk => hk.mono hL hrel⟩
  obtain ⟨⟨extra, hlog, _⟩, _⟩ := hrel
  rw [hlog]; simp

end EmitModel.FileSet
