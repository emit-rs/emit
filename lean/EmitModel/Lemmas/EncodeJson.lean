/-
  Lemmas/EncodeJson.lean — C13. The renderer of Model/Json.lean produces texts of the JSON grammar; a text of the
  grammar holds no control character, in particular no raw newline.
-/
import EmitModel.Model.Json

namespace EmitModel.Json

/-- case analysis on an `if` in the goal without `split` (which re-traverses the whole remaining chain of a
    nested `if … else if …` at every step) -/
theorem ite_rec {α : Sort _} {P : α → Prop} {c : Prop} [Decidable c] {a b : α} (ha : c → P a) (hb : ¬ c → P b) :
    P (if c then a else b) := by
  split
  · exact ha ‹_›
  · exact hb ‹_›

theorem IsStrBody.append {a b : List Char} (ha : IsStrBody a) (hb : IsStrBody b) : IsStrBody (a ++ b) := by
  induction ha with
  | nil => simpa using hb
  | plain c rest h1 h2 h3 _ ih => exact IsStrBody.plain c _ h1 h2 h3 ih
  | esc e rest he _ ih => exact IsStrBody.esc e _ he ih
  | uni a b c d rest ha hb hc hd _ ih => exact IsStrBody.uni a b c d _ ha hb hc hd ih

theorem hexDigit_isHex : ∀ n, n < 16 → IsHexDigit (hexDigit n) := by
  unfold IsHexDigit; decide

theorem escapeChar_strBody (c : Char) : IsStrBody (escapeChar c) := by
  have two : ∀ e, (e = '"' ∨ e = '\\' ∨ e = '/' ∨ e = 'b' ∨ e = 'f' ∨ e = 'n' ∨ e = 'r' ∨ e = 't') →
      IsStrBody ['\\', e] := fun e he => .esc e [] he .nil
  unfold escapeChar
  -- the chain of `escapeChar` in code order; `h1`, `h2` (not `"`, not `\`) are for the plain character at the end
  refine ite_rec (fun _ => two _ (by simp)) fun h1 => ?_
  refine ite_rec (fun _ => two _ (by simp)) fun h2 => ?_
  refine ite_rec (fun _ => two _ (by simp)) fun _ => ?_
  refine ite_rec (fun _ => two _ (by simp)) fun _ => ?_
  refine ite_rec (fun _ => two _ (by simp)) fun _ => ?_
  refine ite_rec (fun _ => two _ (by simp)) fun _ => ?_
  refine ite_rec (fun _ => two _ (by simp)) fun _ => ?_
  refine ite_rec (fun h => ?_) fun h => .plain c _ (by omega) h1 h2 .nil
  exact .uni '0' '0' _ _ _ (hexDigit_isHex 0 (by decide)) (hexDigit_isHex 0 (by decide))
    (hexDigit_isHex _ (by omega)) (hexDigit_isHex _ (by omega)) .nil

theorem escape_strBody (cs : List Char) : IsStrBody (escape cs) := by
  induction cs with
  | nil => exact IsStrBody.nil
  | cons c cs ih => exact IsStrBody.append (escapeChar_strBody c) ih

theorem digitChar_spec : ∀ n, n < 10 → IsDigit (digitChar n) ∧ (n ≠ 0 → digitChar n ≠ '0') := by
  unfold IsDigit; decide

theorem natDec_spec (n : Nat) :
    (n = 0 ∧ natDec n = ['0']) ∨
    (n ≠ 0 ∧ ∃ d ds, natDec n = d :: ds ∧ IsDigit d ∧ d ≠ '0' ∧ ∀ c ∈ ds, IsDigit c) := by
  fun_induction natDec n with
  | case1 n h =>
    by_cases h0 : n = 0
    · subst h0; exact .inl ⟨rfl, rfl⟩
    · exact .inr ⟨h0, _, [], rfl, (digitChar_spec n h).1, (digitChar_spec n h).2 h0, by simp⟩
  | case2 n h ih =>
    rcases ih with ⟨h0, _⟩ | ⟨_, d, ds, hd, hdig, hnz, hall⟩
    · omega
    · exact .inr ⟨by omega, d, ds ++ [digitChar (n % 10)], by simp [hd], hdig, hnz,
        List.forall_mem_append.mpr ⟨hall, by simpa using (digitChar_spec _ (by omega)).1⟩⟩

theorem natDec_intPart (n : Nat) : IsIntPart (natDec n) := by
  rcases natDec_spec n with ⟨_, h⟩ | ⟨_, d, ds, h, hd, hnz, hall⟩
  · rw [h]; exact IsIntPart.zero
  · rw [h]; exact IsIntPart.nz d ds hd hnz hall

theorem intDec_isNumber (i : Int) : IsNumber (intDec i) := by
  unfold intDec
  split
  · simpa using IsNumber.mk ['-'] _ [] [] (.inr rfl) (natDec_intPart i.natAbs) .none .none
  · simpa using IsNumber.mk [] _ [] [] (.inl rfl) (natDec_intPart i.toNat) .none .none

mutual
theorem render_isJson : (j : Json) → j.NumsOk → IsJson (render j)
  | .null, _ => IsJson.null
  | .bool true, _ => IsJson.tru
  | .bool false, _ => IsJson.fls
  | .int i, _ => IsJson.num _ (intDec_isNumber i)
  | .num _, h => IsJson.num _ h
  | .str _, _ => IsJson.str _ (escape_strBody _)
  | .arr xs, h => IsJson.arr _ (renderElems_isJson xs h)
  | .obj kvs, h => IsJson.obj _ (renderMembers_isJson kvs h)
theorem renderElems_isJson : (xs : List Json) → Json.NumsOkList xs → IsJsonList (renderElems xs)
  | [], _ => IsJsonList.nil
  | x :: xs, h => IsJsonList.cons _ _ (render_isJson x h.1) (renderElems_isJson xs h.2)
theorem renderMembers_isJson : (kvs : List (String × Json)) → Json.NumsOkMembers kvs → IsMemberList (renderMembers kvs)
  | [], _ => IsMemberList.nil
  | (_, v) :: rest, h =>
    IsMemberList.cons _ _ _ (escape_strBody _) (render_isJson v h.1) (renderMembers_isJson rest h.2)
end

/-! One induction over the grammar; "no raw newline" — one record per line — is the instance `'\n'`. -/

abbrev Printable (t : List Char) : Prop := ∀ c ∈ t, 32 ≤ c.toNat

theorem Printable.nil : Printable [] := fun _ h => nomatch h

theorem Printable.cons {c : Char} {t : List Char} (hc : 32 ≤ c.toNat) (ht : Printable t) : Printable (c :: t) :=
  List.forall_mem_cons.mpr ⟨hc, ht⟩

theorem Printable.append {a b : List Char} (ha : Printable a) (hb : Printable b) : Printable (a ++ b) :=
  List.forall_mem_append.mpr ⟨ha, hb⟩

theorem Printable.no_newline {t : List Char} (h : Printable t) : '\n' ∉ t :=
  fun hm => absurd (h _ hm) (by decide)

theorem IsDigit.printable {c : Char} (h : IsDigit c) : 32 ≤ c.toNat := Nat.le_trans (by decide) h.1

theorem IsHexDigit.printable {c : Char} (h : IsHexDigit c) : 32 ≤ c.toNat := by
  unfold IsHexDigit at h; omega

theorem printable_digits {ds : List Char} (h : ∀ c ∈ ds, IsDigit c) : Printable ds :=
  fun c hc => (h c hc).printable

theorem IsStrBody.printable {b : List Char} (h : IsStrBody b) : Printable b := by
  induction h with
  | nil => exact .nil
  | plain c rest h1 _ _ _ ih => exact .cons h1 ih
  | esc e rest he _ ih =>
    refine .cons (by decide) (.cons ?_ ih)
    rcases he with h | h | h | h | h | h | h | h <;> subst h <;> decide
  | uni a b c d rest ha hb hc hd _ ih =>
    exact .cons (by decide) (.cons (by decide) (.cons ha.printable (.cons hb.printable
      (.cons hc.printable (.cons hd.printable ih)))))

theorem IsNumber.printable {t : List Char} (h : IsNumber t) : Printable t := by
  obtain ⟨sign, ip, fr, ex, hs, hi, hf, he⟩ := h
  refine .append ?_ (.append ?_ (.append ?_ ?_))
  · rcases hs with h | h <;> subst h <;> decide
  · cases hi with
    | zero => decide
    | nz d ds hd _ hall => exact .cons hd.printable (printable_digits hall)
  · cases hf with
    | none => exact .nil
    | some d ds hd hall => exact .cons (by decide) (.cons hd.printable (printable_digits hall))
  · cases he with
    | none => exact .nil
    | some e sign d ds he hsg hd hall =>
      refine .cons ?_ (.append ?_ (.cons hd.printable (printable_digits hall)))
      · rcases he with h | h <;> subst h <;> decide
      · rcases hsg with h | h | h <;> subst h <;> decide

theorem commaSep_printable : (parts : List (List Char)) → (∀ p ∈ parts, Printable p) → Printable (commaSep parts)
  | [], _ => .nil
  | [x], h => h x (by simp)
  | x :: y :: rest, h =>
    .append (h x (by simp)) (.cons (by decide)
      (commaSep_printable (y :: rest) fun p hp => h p (List.mem_cons_of_mem _ hp)))

theorem bracket_printable {o c : Char} {t : List Char} (ho : 32 ≤ o.toNat) (hc : 32 ≤ c.toNat) (ht : Printable t) :
    Printable (o :: (t ++ [c])) :=
  .cons ho (.append ht (.cons hc .nil))

mutual
theorem IsJson.printable : {t : List Char} → IsJson t → Printable t
  | _, .null => by decide
  | _, .tru => by decide
  | _, .fls => by decide
  | _, .num _ h => h.printable
  | _, .str _ h => bracket_printable (by decide) (by decide) h.printable
  | _, .arr _ h => bracket_printable (by decide) (by decide) (commaSep_printable _ h.printable)
  | _, .obj _ h => bracket_printable (by decide) (by decide) (commaSep_printable _ h.printable)
theorem IsJsonList.printable : {ps : List (List Char)} → IsJsonList ps → ∀ p ∈ ps, Printable p
  | _, .nil => fun _ h => nomatch h
  | _, .cons _ _ hx hr => List.forall_mem_cons.mpr ⟨hx.printable, hr.printable⟩
theorem IsMemberList.printable : {ps : List (List Char)} → IsMemberList ps → ∀ p ∈ ps, Printable p
  | _, .nil => fun _ h => nomatch h
  | _, .cons _ _ _ hk hv hr => List.forall_mem_cons.mpr
      ⟨.append (bracket_printable (by decide) (by decide) hk.printable) (.cons (by decide) hv.printable),
       hr.printable⟩
end

theorem render_no_newline (j : Json) (h : j.NumsOk) : '\n' ∉ render j :=
  (render_isJson j h).printable.no_newline

theorem renderElems_no_newline : (xs : List Json) → Json.NumsOkList xs → ∀ p ∈ renderElems xs, '\n' ∉ p :=
  fun xs h p hp => ((renderElems_isJson xs h).printable p hp).no_newline

theorem renderMembers_no_newline : (kvs : List (String × Json)) → Json.NumsOkMembers kvs →
    ∀ p ∈ renderMembers kvs, '\n' ∉ p :=
  fun kvs h p hp => ((renderMembers_isJson kvs h).printable p hp).no_newline

end EmitModel.Json
