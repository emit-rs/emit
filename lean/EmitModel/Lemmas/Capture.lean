/-
  Lemmas/Capture.lean — what Thm/C19.lean rests on: one equation per capture hook that has a blanket impl, what a
  captured primitive holds and prints, and which observations buffering leaves unchanged.
-/
import EmitModel.Model.Capture

namespace EmitModel.C19
open EmitModel.Capture

theorem inRange_iff (t : IntTy) (i : Int) : t.inRange i = true ↔ t.lo ≤ i ∧ i < t.hi := by
  simp [IntTy.inRange]

theorem carrier_inRange (t : IntTy) (i : Int) (h : t.inRange i = true) : t.carrier.inRange i = true := by
  rw [inRange_iff] at *
  cases t <;> simp [IntTy.carrier, IntTy.signed, IntTy.lo, IntTy.hi] at * <;> omega

theorem toInt_of_int (t : IntTy) (c : Cast) (i : Int) (hc : c.int? = some i) (h : t.inRange i = true) :
    c.toInt t = some i := by
  simp [Cast.toInt, hc, Option.filter, carrier_inRange t i h, h]

def isIntCap : Cap → Bool
  | .signed _ | .unsigned _ | .bigSigned _ | .bigUnsigned _ => true
  | _ => false

/-- Buffering widens `i64`/`u64` to the 128-bit carriers (vb:internal/owned.rs:204-222) — the integer is the same. -/
theorem readVia_int (p : Path) (c : Cap) (hc : isIntCap c = true) :
    (readVia p c).cast.int? = c.cast.int? := by
  cases c <;> first | contradiction | (cases p <;> rfl)

theorem primLeaf_int (t : IntTy) (i : Int) (h : t.inRange i = true) :
    ∃ c, primLeaf? (.int t i) = some c ∧ isIntCap c = true ∧ c.cast.int? = some i ∧
      c.toDisplay = some (toString i) ∧ c.serdeJson = toString i ∧ c.svalJson = toString i := by
  cases hs : t.signed
  · have h0 : t.lo = 0 := by cases t <;> first | rfl | cases hs
    obtain ⟨n, rfl⟩ := Int.eq_ofNat_of_zero_le (h0 ▸ ((inRange_iff t i).1 h).1)
    cases t <;> exact ⟨_, rfl, rfl, rfl, rfl, rfl, rfl⟩
  · cases t <;> first | contradiction | exact ⟨_, rfl, rfl, rfl, rfl, rfl, rfl⟩

mutual
  /-- Outside the region of finding `sval-nested-seq-via-serde` the bridge's rendering is the plain one. -/
  theorem json_broken_eq (fw : Fw) : ∀ (v : V) (root : Bool), v.hasSeqBelow root = false →
      v.json fw true root = v.json fw false root
    | .bool _, _, _ | .int _ _, _, _ | .f32 _ _, _, _ | .f64 _, _, _ | .char _ _, _, _ | .str _ _ _, _, _
    | .unit, _, _ | .optNone _, _, _ | .ustruct _, _, _ | .uvar _, _, _ | .err _ _, _, _ | .fmtOnly _ _, _, _
    | .level _, _, _ | .traceId _, _, _ | .spanId _, _, _ => by simp [V.json]
    | .optSome v, _, h => json_broken_eq fw v false h
    | .nvar _ v, _, h => by simp only [V.json, json_broken_eq fw v false h]
    | .seq vs, root, h => by
      simp only [V.hasSeqBelow, Bool.or_eq_false_iff] at h
      simp only [V.json]
      rw [jsonList_broken_eq fw vs h.2]
      cases root
      · cases vs with
        | nil => simp [jsonList, seqJson]
        | cons a as => simp at h
      · simp
    | .tuple vs, _, h | .tstruct _ vs, _, h | .tvar _ vs, _, h => by simp only [V.json, jsonList_broken_eq fw vs h]
    | .map kvs, _, h => by simp only [V.json, jsonKvs_broken_eq fw kvs h]
    | .record _ fs, _, h | .svar _ fs, _, h => by simp only [V.json, jsonFields_broken_eq fw fs h]
  theorem jsonList_broken_eq (fw : Fw) : ∀ (vs : List V), anySeqBelow vs = false →
      jsonList fw true vs = jsonList fw false vs
    | [], _ => by simp [jsonList]
    | v :: vs, h => by
      simp only [anySeqBelow, Bool.or_eq_false_iff] at h
      simp only [jsonList]; rw [json_broken_eq fw v false h.1, jsonList_broken_eq fw vs h.2]
  theorem jsonKvs_broken_eq (fw : Fw) : ∀ (kvs : List (V × V)), anySeqBelowKvs kvs = false →
      jsonKvs fw true kvs = jsonKvs fw false kvs
    | [], _ => by simp [jsonKvs]
    | (k, v) :: kvs, h => by
      simp only [anySeqBelowKvs, Bool.or_eq_false_iff] at h
      simp only [jsonKvs]; rw [json_broken_eq fw v false h.1, jsonKvs_broken_eq fw kvs h.2]
  theorem jsonFields_broken_eq (fw : Fw) : ∀ (fs : List (String × V)), anySeqBelowFields fs = false →
      jsonFields fw true fs = jsonFields fw false fs
    | [], _ => by simp [jsonFields]
    | (f, v) :: fs, h => by
      simp only [anySeqBelowFields, Bool.or_eq_false_iff] at h
      simp only [jsonFields]; rw [json_broken_eq fw v false h.1, jsonFields_broken_eq fw fs h.2]
end

theorem primLeaf_text (v : V) (c : Cap) (h : primLeaf? v = some c) (hf : ∀ x w, v ≠ .f32 x w)
    (hr : ∀ ty i, v = .int ty i → ty.inRange i = true) (root : Bool) :
    c.toDisplay = v.display? ∧ c.serdeJson = v.json .serde false root ∧ c.svalJson = v.json .sval false root := by
  cases v with
  | f32 x w => exact absurd rfl (hf x w)
  | int t i =>
    obtain ⟨c', hc, _, _, hd, hs, hv⟩ := primLeaf_int t i (hr t i rfl)
    cases hc.symm.trans h
    exact ⟨hd, hs, hv⟩
  | bool _ | f64 _ | char _ _ | str _ _ _ => cases h; exact ⟨rfl, rfl, rfl⟩
  | _ => cases h

/-! `captureWith` special-cases the unsized `str` in every trait. For the `Any`-bounded (`inspect`) hooks the special case
agrees with the blanket impl, so their equations hold of every value; the anonymous hooks treat a `&str` differently
(it stays a string), so theirs exclude it. -/

theorem captureWith_str (hk : Hook) (s d : String) : captureWith hk (.str false s d) = some (some (.str s d)) := by
  cases hk <;> first | rfl | (rename_i i; cases i <;> rfl)

theorem captureWith_default (v : V) :
    captureWith .default v = v.display?.map fun t => some ((tryCapture v).getD (.display t v.tid)) := by
  cases v with
  | str o _ _ => cases o <;> rfl
  | _ => rfl

/-- `#[emit::as_display(inspect: true)]` is the default capture. -/
theorem display_inspect_is_default (v : V) : captureWith (.display true) v = captureWith .default v := by
  cases v <;> rfl

theorem captureWith_debug_inspect (v : V) :
    captureWith (.debug true) v = v.debug?.map fun t => some ((tryCapture v).getD (.debug t v.tid)) := by
  cases v with
  | str o _ _ => cases o <;> rfl
  | _ => rfl

theorem captureWith_anon (v : V) (hv : ¬ ∃ s d, v = .str false s d) :
    captureWith (.display false) v = (v.display?.map fun t => some (.display t .no)) ∧
    captureWith (.debug false) v = (v.debug?.map fun t => some (.debug t .no)) ∧
    captureWith (.sval false) v = (if v.hasSval then some (some (.sval v false .no)) else none) ∧
    captureWith (.serde false) v = (if v.hasSerde then some (some (.serde v false .no)) else none) := by
  cases v with
  | str o s d => cases o <;> first | exact absurd ⟨s, d, rfl⟩ hv | exact ⟨rfl, rfl, rfl, rfl⟩
  | _ => exact ⟨rfl, rfl, rfl, rfl⟩

def isErrorCap : Cap → Bool
  | .error _ => true
  | _ => false

def isUnbufferedSval : Cap → Bool
  | .sval _ false _ => true
  | _ => false

/-- The observations buffering may legitimately change, and for which captured values:
    * `downcast_ref` — documented as unreliable once a value is buffered (core/src/value.rs:157-164);
    * the chain and the root-cause display of an ERROR (see `error_chain_lost_when_shared`);
    * borrowing a `&str` out of an sval-captured string (`pull::<&str>`; `pull::<String>` survives). -/
def Survives (o : ObsKind) (c : Cap) : Prop :=
  o ≠ .downcast ∧ (isErrorCap c = true → o ≠ .chain ∧ o ≠ .display) ∧
    (isUnbufferedSval c = true → o ≠ .pullBorrowedStr)

theorem leafCast_buffered (v : V) (b : Bool) :
    (leafCast .sval true v).int? = (leafCast .sval b v).int? ∧
    (leafCast .sval true v).toF64 = (leafCast .sval b v).toF64 ∧
    (leafCast .sval true v).toBool = (leafCast .sval b v).toBool ∧
    (leafCast .sval true v).toStr = (leafCast .sval b v).toStr ∧
    leafCast .serde true v = leafCast .serde b v := by
  cases v <;> exact ⟨rfl, rfl, rfl, rfl, rfl⟩

/-- `to_owned`: every surviving observation is unchanged — in particular `i64`/`u64` widened to the 128-bit
    carriers answer every typed pull as before. -/
theorem observe_toOwned (o : ObsKind) (c : Cap) (h : Survives o c) : observe o (toOwned c) = observe o c := by
  obtain ⟨hd, _, hs⟩ := h
  cases c with
  | signed _ | unsigned _ => cases o <;> rfl
  | display _ _ | debug _ _ => cases o <;> first | exact absurd rfl hd | rfl
  | sval v b t =>
    obtain ⟨h1, h2, h3, h4, _⟩ := leafCast_buffered v b
    cases o <;> first
      | exact absurd rfl hd
      | rfl
      | (cases b <;> first | exact absurd rfl (hs rfl) | rfl)
      | simp only [observe, toOwned, Cap.cast, Cast.toInt, h1, h2, h3, h4]
  | serde v b t =>
    have h := (leafCast_buffered v b).2.2.2.2
    cases o <;> first | exact absurd rfl hd | rfl | simp only [observe, toOwned, Cap.cast, h]
  | _ => rfl

theorem observe_toShared (o : ObsKind) (c : Cap) (h : Survives o c) : observe o (toShared c) = observe o c := by
  cases c with
  | error ch =>
    obtain ⟨_, _⟩ := h.2.1 rfl
    cases o <;> first | rfl | contradiction
  | _ => exact observe_toOwned o _ h

/-- An id that is still downcastable was captured through its Display impl (true of every capture except
    `as_debug/as_sval/as_serde(inspect: true)` applied to a `TraceId`/`SpanId`, where the ambient context's typed
    fast path legitimately replaces the Debug/structured capture by the id itself). -/
def IdByDisplay : Cap → Prop
  | .display t (.trace n) => t = traceIdText n
  | .display t (.span n) => t = spanIdText n
  | .debug _ (.trace _) | .debug _ (.span _) => False
  | .sval _ _ (.trace _) | .sval _ _ (.span _) => False
  | .serde _ _ (.trace _) | .serde _ _ (.span _) => False
  | _ => True

theorem observe_ctxtStore (o : ObsKind) (c : Cap) (hid : IdByDisplay c) (h : Survives o c) :
    observe o (ctxtStore c) = observe o c := by
  -- an id is stored as itself and handed out as its Display capture, which by `hid` it was
  cases c with
  | display _ t =>
    cases t with
    | trace n | span n =>
      obtain rfl : _ = _ := hid
      cases o <;> first | rfl | exact absurd rfl h.1
    | _ => exact observe_toShared o _ h
  | debug _ t | sval _ _ t | serde _ _ t =>
    cases t with
    | trace _ | span _ => exact hid.elim
    | _ => exact observe_toShared o _ h
  | _ => exact observe_toShared o _ h

theorem idByDisplay_of_tid_no (c : Cap) (h : c.tid = .no) : IdByDisplay c := by
  cases c <;> first | trivial | (cases h; trivial)

theorem primLeaf_no_tid_no_error (v : V) (c : Cap) (h : primLeaf? v = some c) : c.tid = .no ∧ isErrorCap c = false := by
  cases v with
  | int t _ => cases h; cases t <;> exact ⟨rfl, rfl⟩
  | bool _ | f32 _ _ | f64 _ | char _ _ | str _ _ _ => cases h; exact ⟨rfl, rfl⟩
  | _ => cases h

theorem tryCapture_no_tid_no_error (v : V) (c : Cap) (h : tryCapture v = some c) : c.tid = .no ∧ isErrorCap c = false := by
  unfold tryCapture at h
  split at h
  · cases h; exact ⟨rfl, rfl⟩
  · exact primLeaf_no_tid_no_error _ c h
  · exact primLeaf_no_tid_no_error _ c h

theorem display_idByDisplay (v : V) (t : String) (h : v.display? = some t) : IdByDisplay (.display t v.tid) := by
  cases v <;> simp [V.display?] at h <;> (try subst h) <;> simp [V.tid, IdByDisplay]

theorem toValue_idByDisplay (v : V) (c : Cap) (h : toValue? v = some c) : IdByDisplay c := by
  fun_induction toValue? v with
  | case1 | case2 => cases h
  | case3 | case5 => cases h; trivial
  | case4 v ih => exact ih h
  | case6 | case7 => cases h; exact rfl
  | case8 v => exact idByDisplay_of_tid_no c (primLeaf_no_tid_no_error v c h).1

end EmitModel.C19
