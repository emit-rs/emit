/-
  Lemmas/EncodeDedup.lean — C13. `Props::dedup()` as modelled in Model/Value.lean is `Assoc.collectFirst` of
  Base/Assoc.lean (a sorted list filled with insert-if-absent), so the result has pairwise distinct keys, the same
  key set as the input, and maps every key to its FIRST value.
-/
import EmitModel.Model.Value
import EmitModel.Base.Assoc

namespace EmitModel.Encode
open Std

variable {α : Type}

/-- `Assoc.keys`, by definition -/
def keys (ps : List (String × α)) : List String := ps.map Prod.fst

theorem gt_ne {a b : String} (h : compare a b = .gt) : a ≠ b := by
  intro e; subst e; simp [ReflCmp.compare_self] at h

theorem lookupFirst_eq (k : String) (m : List (String × α)) : lookupFirst k m = Assoc.lookupFirst k m := by
  induction m with
  | nil => rfl
  | cons a m ih => simp only [lookupFirst, Assoc.lookupFirst, ih]

theorem insertFirst_eq (k : String) (v : α) (m : List (String × α)) :
    insertFirst k v m = Assoc.insertIfAbsent compare m k v := by
  induction m with
  | nil => rfl
  | cons a m ih =>
    -- the model compares `k` with the entry, Base/Assoc the entry with `k`
    simp only [insertFirst, Assoc.insertIfAbsent, OrientedCmp.eq_swap (cmp := compare) (a := a.1) (b := k)]
    cases compare k a.1 <;> simp [ih]

theorem dedupSorted_eq (ps acc : List (String × α)) :
    dedupSorted acc ps = ps.foldl (fun m kv => Assoc.insertIfAbsent compare m kv.1 kv.2) acc := by
  induction ps generalizing acc with
  | nil => rfl
  | cons a ps ih => simp only [dedupSorted, List.foldl_cons, insertFirst_eq, ih]

/-- the collection answers `is_unique()` truthfully -/
def UniqueOk (unique : Bool) (ps : List (String × α)) : Prop := unique = true → (keys ps).Nodup

theorem dedup_lookup (u : Bool) (ps : List (String × α)) (q : String) :
    lookupFirst q (dedup u ps) = lookupFirst q ps := by
  cases u
  · simp only [dedup, Bool.false_eq_true, if_false, dedupSorted_eq, lookupFirst_eq]
    exact Assoc.lookupFirst_collectFirst ps q
  · rfl

theorem dedup_nodup (u : Bool) (ps : List (String × α)) (h : UniqueOk u ps) : (keys (dedup u ps)).Nodup := by
  cases u
  · simp only [dedup, Bool.false_eq_true, if_false, dedupSorted_eq]
    exact (Assoc.sorted_collectFirst (cmp := compare) ps).nodup_keys
  · exact h rfl

theorem dedup_mem (u : Bool) (ps : List (String × α)) (p : String × α) (hp : p ∈ dedup u ps) : p ∈ ps := by
  cases u
  · -- an entry of a list with distinct keys is what lookup finds there, and lookup finds the same in the input
    have hnd := dedup_nodup false ps (fun h => nomatch h)
    have := Assoc.lookupFirst_eq_some_of_mem hnd hp
    rw [← lookupFirst_eq, dedup_lookup, lookupFirst_eq] at this
    exact Assoc.mem_of_lookupFirst_eq_some this
  · exact hp

theorem Event.deduped_keys (e : Event) (q : String) : q ∈ keys e.deduped ↔ q ∈ keys e.props :=
  Assoc.mem_keys_iff_of_lookup_eq (fun k => by rw [← lookupFirst_eq, ← lookupFirst_eq, Event.deduped, dedup_lookup]) q

theorem Event.mem_deduped (e : Event) {k : String} {v : PV} (hv : lookupFirst k e.props = some v) :
    (k, v) ∈ e.deduped :=
  Assoc.mem_of_lookupFirst_eq_some (lookupFirst_eq k _ ▸ dedup_lookup e.unique e.props k ▸ hv)

end EmitModel.Encode
