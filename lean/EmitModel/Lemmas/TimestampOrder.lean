/-
  Lemmas/TimestampOrder.lean — C15. Formatted timestamps order lexicographically (as bytes) exactly as the instants:
  text order = lexicographic order of the printed fields = order of `Parts.key`, one number whose date part is strictly
  monotone in the day number, so the keys order as the seconds; then the printed fraction.
-/
import EmitModel.Lemmas.TimestampText

namespace EmitModel.Timestamp
open EmitModel.Text

theorem fmtParts_lt (k : Nat) (hk : k ≤ 9) (p q : Parts) (hp : InRange p) (hq : InRange q) :
    BLt (fmtParts (some k) p) (fmtParts (some k) q) ↔
      p.years < q.years ∨ (p.years = q.years ∧ (p.months < q.months ∨ (p.months = q.months ∧
      (p.days < q.days ∨ (p.days = q.days ∧ (p.hours < q.hours ∨ (p.hours = q.hours ∧
      (p.minutes < q.minutes ∨ (p.minutes = q.minutes ∧ (p.seconds < q.seconds ∨ (p.seconds = q.seconds ∧
      p.nanos / 10 ^ (9 - k) < q.nanos / 10 ^ (9 - k)))))))))))) := by
  obtain ⟨⟨_, py⟩, ⟨_, pmo⟩, ⟨_, pd⟩, ph, pmi, ps, pn⟩ := hp
  obtain ⟨⟨_, qy⟩, ⟨_, qmo⟩, ⟨_, qd⟩, qh, qmi, qs, qn⟩ := hq
  have frac : BLt (fracDigits k p.nanos ++ [90]) (fracDigits k q.nanos ++ [90]) ↔
      p.nanos / 10 ^ (9 - k) < q.nanos / 10 ^ (9 - k) := by
    have hn9 : (10 : Nat) ^ 9 = 1000000000 := by decide
    rw [blt_field (fracDigits_spec k p.nanos hk (by omega)) (fracDigits_spec k q.nanos hk (by omega))]
    simp [blt_irrefl]
  rw [fmtParts_eq_text, fmtParts_eq_text, Nat.min_eq_right hk]
  simp only [rfc3339Text, List.append_assoc, List.cons_append, List.nil_append]
  rw [blt_field (four_spec p.years (by omega)) (four_spec q.years (by omega)), blt_sep,
    blt_field (two_spec p.months (by omega)) (two_spec q.months (by omega)), blt_sep,
    blt_field (two_spec p.days (by omega)) (two_spec q.days (by omega)), blt_sep,
    blt_field (two_spec p.hours (by omega)) (two_spec q.hours (by omega)), blt_sep,
    blt_field (two_spec p.minutes (by omega)) (two_spec q.minutes (by omega)), blt_sep,
    blt_field (two_spec p.seconds (by omega)) (two_spec q.seconds (by omega)), ← frac]
  -- without a fraction the text ends as if after zero fractional digits
  cases k with
  | zero => rfl
  | succ k =>
    have ne : ∀ n, fracDigits (k + 1) n ≠ [] := fun n => by simp [fracDigits_succ]
    rw [if_neg (ne _), if_neg (ne _), blt_sep]

def monthDayKey (n : Nat) : Nat := 32 * (monthOfDoy n).1 + (monthOfDoy n).2

theorem monthDayKey_succ : ∀ n, n < 365 → monthDayKey n < monthDayKey (n + 1) := by decide +kernel

theorem monthDayKey_mono (n m : Nat) (h : n < m) (hm : m < 366) : monthDayKey n < monthDayKey m := by
  induction m with
  | zero => omega
  | succ m ih =>
    rcases Nat.lt_or_ge n m with h' | h'
    · exact Nat.lt_trans (ih h' (by omega)) (monthDayKey_succ m (by omega))
    · have : n = m := by omega
      subst this
      exact monthDayKey_succ n (by omega)

/-- a later day is in a later year (`yearStart_succ_le`) or later in the same year (`monthDayKey_mono`) -/
theorem date_key {d d' Z Z' : Int} {r r' : Nat} (h1 : yearStart Z + r = d) (h2 : d < yearStart (Z + 1))
    (h1' : yearStart Z' + r' = d') (h2' : d' < yearStart (Z' + 1)) (hr : r < 366) (hr' : r' < 366) :
    (d < d' → (12 * Z + (monthOfDoy r).1) * 32 + (monthOfDoy r).2 <
      (12 * Z' + (monthOfDoy r').1) * 32 + (monthOfDoy r').2) ∧
    (d = d' → (12 * Z + (monthOfDoy r).1) * 32 + (monthOfDoy r).2 =
      (12 * Z' + (monthOfDoy r').1) * 32 + (monthOfDoy r').2) := by
  have b := monthOfDoy_le r hr
  have b' := monthOfDoy_le r' hr'
  rcases Int.lt_trichotomy Z Z' with h | h | h
  · have := yearStart_succ_le h
    omega
  · subst h
    refine ⟨fun hd => ?_, fun hd => ?_⟩
    · have := monthDayKey_mono r r' (by omega) hr'
      unfold monthDayKey at this
      omega
    · obtain rfl : r = r' := by omega
      rfl
  · have := yearStart_succ_le h
    omega

/-- the radices are the widths of the field ranges of `InRange` (months and days run from 1: see `lex_mul`) -/
def Parts.key (p : Parts) : Nat :=
  ((((12 * p.years + p.months) * 32 + p.days) * 24 + p.hours) * 60 + p.minutes) * 60 + p.seconds

theorem lex_fold (dx dy vx vy P : Nat) (hx : vx < vy + P) (hy : vy < vx + P) (R : Prop) :
    (dx < dy ∨ (dx = dy ∧ (vx < vy ∨ (vx = vy ∧ R)))) ↔
      (dx * P + vx < dy * P + vy ∨ (dx * P + vx = dy * P + vy ∧ R)) := by
  obtain ⟨m1, m2⟩ := lex_mul dx dy vx vy P hx hy
  rw [m1, m2, and_or_left, ← or_assoc, ← and_assoc]

theorem lex_key (p q : Parts) (hp : InRange p) (hq : InRange q) (R : Prop) :
    (p.years < q.years ∨ (p.years = q.years ∧ (p.months < q.months ∨ (p.months = q.months ∧
      (p.days < q.days ∨ (p.days = q.days ∧ (p.hours < q.hours ∨ (p.hours = q.hours ∧
      (p.minutes < q.minutes ∨ (p.minutes = q.minutes ∧ (p.seconds < q.seconds ∨ (p.seconds = q.seconds ∧
      R)))))))))))) ↔ (p.key < q.key ∨ (p.key = q.key ∧ R)) := by
  obtain ⟨_, ⟨_, pmo⟩, ⟨_, pd⟩, ph, pmi, ps, _⟩ := hp
  obtain ⟨_, ⟨_, qmo⟩, ⟨_, qd⟩, qh, qmi, qs, _⟩ := hq
  rw [lex_fold _ _ _ _ 12 (by omega) (by omega), lex_fold _ _ _ _ 32 (by omega) (by omega),
    lex_fold _ _ _ _ 24 (by omega) (by omega), lex_fold _ _ _ _ 60 (by omega) (by omega),
    lex_fold _ _ _ _ 60 (by omega) (by omega), Nat.mul_comm p.years, Nat.mul_comm q.years]
  rfl

/-- 768097 = (12·2000 + 3)·32 + 1: years count from 0, months from March = 3, days from 1; 86400 seconds a
    day; `-2000 ≤ Z` keeps the year a natural number -/
theorem key_partsOf (Z : Int) (r rs ns : Nat) (hZ : -2000 ≤ Z) (hr : r < 366) :
    ((partsOf Z r rs ns).key : Int) =
      ((12 * Z + (monthOfDoy r).1) * 32 + (monthOfDoy r).2 + 768097) * 86400 + rs := by
  have := monthOfDoy_le r hr
  unfold Parts.key partsOf
  simp only
  split <;> omega

theorem key_order (a b : Nat) (p q : Parts) (hp : toPartsO a = .ok p) (hq : toPartsO b = .ok q) :
    (p.key < q.key ↔ a / NANOS < b / NANOS) ∧ (p.key = q.key ↔ a / NANOS = b / NANOS) := by
  obtain ⟨Z, r, h1, h2, hr, hp'⟩ := toPartsO_eq a
  obtain ⟨Z', r', h1', h2', hr', hq'⟩ := toPartsO_eq b
  obtain rfl := Outcome.ok.inj (hp.symm.trans hp')
  obtain rfl := Outcome.ok.inj (hq.symm.trans hq')
  have hlo := year_ge Z _ h2
  have hlo' := year_ge Z' _ h2'
  have k := key_partsOf Z r (a / NANOS % 86400) (a % NANOS) (by omega) hr
  have k' := key_partsOf Z' r' (b / NANOS % 86400) (b % NANOS) (by omega) hr'
  obtain ⟨lt, eq⟩ := date_key h1 h2 h1' h2' hr hr'
  obtain ⟨gt, -⟩ := date_key h1' h2' h1 h2 hr' hr
  -- `omega` gets the two keys and the four order facts only: the rest mentions `yearStart`, `toPartsO`
  clear hp hq hp' hq' hlo hlo' hr hr' h1 h2 h1' h2'
  omega

theorem div_split (t P Q : Nat) (hQ : 0 < Q) :
    t / P = t / (P * Q) * Q + t % (P * Q) / P ∧ t % (P * Q) / P < Q := by
  rw [Nat.mod_mul_right_div_self, ← Nat.div_div_eq_div_mul]
  exact ⟨by rw [Nat.mul_comm]; exact (Nat.div_add_mod (t / P) Q).symm, Nat.mod_lt _ hQ⟩

theorem trunc_lt (a b k : Nat) (hk : k ≤ 9) :
    a - a % 10 ^ (9 - k) < b - b % 10 ^ (9 - k) ↔
      a / NANOS < b / NANOS ∨ (a / NANOS = b / NANOS ∧ a % NANOS / 10 ^ (9 - k) < b % NANOS / 10 ^ (9 - k)) := by
  have hP : 0 < 10 ^ (9 - k) := Nat.pow_pos (by decide)
  have hQ : 0 < 10 ^ k := Nat.pow_pos (by decide)
  obtain ⟨ea, la⟩ := div_split a (10 ^ (9 - k)) (10 ^ k) hQ
  obtain ⟨eb, lb⟩ := div_split b (10 ^ (9 - k)) (10 ^ k) hQ
  rw [← nanos_split k hk] at ea eb la lb
  rw [← Nat.mul_div_self_eq_mod_sub_self, ← Nat.mul_div_self_eq_mod_sub_self, Nat.mul_lt_mul_left hP, ea, eb]
  exact (lex_mul _ _ _ _ _ (Nat.lt_add_left _ la) (Nat.lt_add_left _ lb)).1

end EmitModel.Timestamp
