/-
  Lemmas/FileSetOk.lean — the worker on a filesystem without faults (`okPlan`): the listing (`memberSet`), the
  count of member files (`memberCount`), and what retention and creation compute (C11 quantifies over fault-free
  runs).
-/
import EmitModel.Lemmas.FileSetSteps

namespace EmitModel.FileSet

def okPlan : Nat → Fault := fun _ => .ok

theorem simpleOp_okPlan {α : Type} (s : St) (act : St → R α) : simpleOp okPlan s act = act s.tick := rfl

/-- The listing of the set: member names, newest (largest) first. -/
def memberSet (cfg : Config) (fs : List (List Nat × File)) : List (List Nat) :=
  sortDesc ((names fs).filter (isMember cfg.pfx cfg.ext))

def memberCount (cfg : Config) (fs : List (List Nat × File)) : Nat :=
  ((names fs).filter (isMember cfg.pfx cfg.ext)).length

theorem readSet_okPlan (cfg : Config) (s : St) : readSet cfg okPlan s = .ok (memberSet cfg s.fs) s.tick := rfl

theorem removeFile_okPlan (n : List Nat) (s : St) :
    ∃ s', (removeFile okPlan n s = .ok () s' ∨ removeFile okPlan n s = .err s') ∧ s'.fs = fsErase s.fs n ∧
      (s'.log = s.log ∨ s'.log = s.log ++ [.deleted n]) := by
  unfold removeFile
  rw [simpleOp_okPlan]
  cases h : fsGet s.tick.fs n with
  | some f => exact ⟨_, .inl rfl, rfl, .inr rfl⟩
  | none => exact ⟨_, .inr rfl, (fsErase_of_none h).symm, .inl rfl⟩

theorem removeAll_okPlan (vs : List (List Nat)) :
    ∀ (s : St), ∃ s', removeAll okPlan vs s = .ok () s' ∧ s'.fs = vs.foldl fsErase s.fs ∧
      ∃ dl : List (List Nat), s'.log = s.log ++ dl.map Ev.deleted ∧ ∀ d ∈ dl, d ∈ vs := by
  induction vs with
  | nil => intro s; exact ⟨s, rfl, rfl, [], by simp, by simp⟩
  | cons n ns ih =>
    intro s
    obtain ⟨s1, h1, hfs1, hl1⟩ := removeFile_okPlan n s
    obtain ⟨s2, h2, hfs2, dl, hl2, hd2⟩ := ih s1
    refine ⟨s2, ?_, by rw [hfs2, hfs1]; rfl, ?_⟩
    · unfold removeAll
      rcases h1 with h1 | h1 <;> simp only [h1] <;> exact h2
    · rcases hl1 with hl1 | hl1
      · exact ⟨dl, by rw [hl2, hl1], fun d hd => List.mem_cons_of_mem _ (hd2 d hd)⟩
      · refine ⟨n :: dl, by rw [hl2, hl1]; simp, ?_⟩
        intro d hd
        rcases List.mem_cons.mp hd with rfl | hd
        · simp
        · exact List.mem_cons_of_mem _ (hd2 d hd)

/-- Without faults `createFile` erases the victims and then creates the file — or fails, when `openNew` finds the
    name taken. -/
theorem createFile_okPlan (cfg : Config) (now : Parts) (id : Nat) (set : List (List Nat)) (s : St) :
    let fs1 := (victims (cfg.maxFiles - 1) set).foldl fsErase s.fs
    let n := nameFor cfg.pfx cfg.ext cfg.rollBy now id
    (∃ s', createFile cfg okPlan now id set s =
          .ok { name := n, ts := fileTs cfg.rollBy now, needsRecovery := false, size := 0 } s' ∧
        s'.fs = (fs1 ++ [(n, newFile)]).map (fun e => (e.1, e.2.setDurable)) ∧
        ∃ dl : List (List Nat), s'.log = s.log ++ dl.map Ev.deleted ++ [.created n] ∧
          ∀ d ∈ dl, d ∈ victims (cfg.maxFiles - 1) set) ∨
    ∃ s', createFile cfg okPlan now id set s = .err s' ∧ s'.fs = fs1 := by
  intro fs1 n
  obtain ⟨s1, h1, hfs1, dl, hl1, hd1⟩ := removeAll_okPlan (victims (cfg.maxFiles - 1) set) s
  unfold createFile
  simp only [h1, memberTs?_nameFor]
  unfold openNew
  rw [simpleOp_okPlan]
  cases hget : fsGet s1.tick.fs (nameFor cfg.pfx cfg.ext cfg.rollBy now id) with
  | some f => exact .inr ⟨s1.tick, rfl, hfs1⟩
  | none =>
    refine .inl ⟨_, rfl, ?_, dl, ?_, hd1⟩
    · simp only [St.tick, hfs1]; rfl
    · simp only [St.tick, hl1]; rfl

end EmitModel.FileSet
