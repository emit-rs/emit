/-
  Lemmas/TemplateMacro.lean — C16, the macro half (Model/TemplateMacro.lean): what the fv_template scanner guarantees
  about a raw text fragment (`BraceOk`, `SegOk`); on such fragments `replace("{{","{").replace("}}","}")` followed by Rust
  unescaping is the unit-by-unit reading `specText`; the meaning of a literal (`specSeg`, `literalMeaning`) is what the
  visitor's parts denote.
-/
import EmitModel.Model.TemplateMacro
import EmitModel.Lemmas.Template
namespace EmitModel.TemplateMacro
open EmitModel.Template

/-- Braces occur only as aligned doubled pairs. -/
inductive BraceOk : List Char → Prop
  | nil : BraceOk []
  | lbrace {r : List Char} : BraceOk r → BraceOk ('{' :: '{' :: r)
  | rbrace {r : List Char} : BraceOk r → BraceOk ('}' :: '}' :: r)
  | plain {c : Char} {r : List Char} : c ≠ '{' → c ≠ '}' → BraceOk r → BraceOk (c :: r)

def NoBrace (cs : List Char) : Prop := ∀ c ∈ cs, c ≠ '{' ∧ c ≠ '}'

theorem BraceOk.append {a b : List Char} (ha : BraceOk a) (hb : BraceOk b) : BraceOk (a ++ b) := by
  induction ha with
  | nil => exact hb
  | lbrace _ ih => exact .lbrace ih
  | rbrace _ ih => exact .rbrace ih
  | plain h1 h2 _ ih => exact .plain h1 h2 ih

theorem BraceOk.of_noBrace {cs : List Char} (h : NoBrace cs) : BraceOk cs := by
  induction cs with
  | nil => exact .nil
  | cons c r ih =>
    have := h c (by simp)
    exact .plain this.1 this.2 (ih fun d hd => h d (by simp [hd]))

theorem BraceOk.inv_lbrace {rest : List Char} (h : BraceOk ('{' :: rest)) : ∃ r, rest = '{' :: r ∧ BraceOk r := by
  cases h with
  | lbrace h => exact ⟨_, rfl, h⟩
  | plain h1 _ _ => exact absurd rfl h1

theorem BraceOk.inv_rbrace {rest : List Char} (h : BraceOk ('}' :: rest)) : ∃ r, rest = '}' :: r ∧ BraceOk r := by
  cases h with
  | rbrace h => exact ⟨_, rfl, h⟩
  | plain _ h2 _ => exact absurd rfl h2

theorem BraceOk.inv_plain {c : Char} {rest : List Char} (h : BraceOk (c :: rest)) (h1 : c ≠ '{') (h2 : c ≠ '}') :
    BraceOk rest := by
  cases h with
  | lbrace h => exact absurd rfl h1
  | rbrace h => exact absurd rfl h2
  | plain _ _ h => exact h

theorem replaceDouble_cons_ne (c a : Char) (t : List Char) (h : a ≠ c) :
    replaceDouble c (a :: t) = a :: replaceDouble c t := by
  cases t with
  | nil => simp [replaceDouble]
  | cons b r => simp [replaceDouble, h]

theorem replaceDouble_double (c : Char) (r : List Char) : replaceDouble c (c :: c :: r) = c :: replaceDouble c r := by
  simp [replaceDouble]

/-- `finishText` on an escaped fragment: `.replace("{{", "{").replace("}}", "}")`. -/
def replace2 (cs : List Char) : List Char := replaceDouble '}' (replaceDouble '{' cs)

theorem replace2_nil : replace2 [] = [] := by simp [replace2, replaceDouble]

theorem replace2_lbrace (r : List Char) : replace2 ('{' :: '{' :: r) = '{' :: replace2 r := by
  simp only [replace2, replaceDouble_double]
  exact replaceDouble_cons_ne _ _ _ (by decide)

theorem replace2_rbrace (r : List Char) : replace2 ('}' :: '}' :: r) = '}' :: replace2 r := by
  simp only [replace2]
  rw [replaceDouble_cons_ne '{' '}' _ (by decide), replaceDouble_cons_ne '{' '}' _ (by decide), replaceDouble_double]

theorem replace2_plain (c : Char) (r : List Char) (h1 : c ≠ '{') (h2 : c ≠ '}') : replace2 (c :: r) = c :: replace2 r := by
  simp only [replace2]
  rw [replaceDouble_cons_ne '{' c _ h1, replaceDouble_cons_ne '}' c _ h2]

theorem replace2_noBrace {cs : List Char} (h : NoBrace cs) : replace2 cs = cs := by
  induction cs with
  | nil => exact replace2_nil
  | cons c r ih =>
    have := h c (by simp)
    rw [replace2_plain c r this.1 this.2, ih fun d hd => h d (by simp [hd])]

/-- Reader state of the specification: between units, inside a backslash escape, or after one brace. -/
inductive SpecSt where
  | esc (st : EscSt)
  | lb
  | rb
  deriving Repr, DecidableEq

/-- Left to right, one character at a time: a backslash escape is the character it denotes, `{{` is `{`, `}}` is `}`,
    anything else is itself; a single brace or a broken escape has no meaning. -/
def specSt : SpecSt → List Char → Option (List Char)
  | .esc .normal, [] => some []
  | _, [] => none
  | .esc .normal, c :: r =>
    if c = '\\' then specSt (.esc .bs) r
    else if c = '{' then specSt .lb r
    else if c = '}' then specSt .rb r
    else (c :: ·) <$> specSt (.esc .normal) r
  | .lb, c :: r => if c = '{' then ('{' :: ·) <$> specSt (.esc .normal) r else none
  | .rb, c :: r => if c = '}' then ('}' :: ·) <$> specSt (.esc .normal) r else none
  | .esc .bs, e :: r =>
    if e = 'x' then specSt (.esc .x) r
    else match escChar e with
      | some ch => (ch :: ·) <$> specSt (.esc .normal) r
      | none => none
  | .esc .x, h :: r => specSt (.esc (.xh h)) r
  | .esc (.xh h), l :: r =>
    match hexEsc h l with
    | some ch => (ch :: ·) <$> specSt (.esc .normal) r
    | none => none

def specText (raw : List Char) : Option (List Char) := specSt (.esc .normal) raw

/-- A character that is no hex digit cannot stand on either side of `\\xHL`. Braces are such characters. -/
theorem hexEsc_none_left {h : Char} (hh : hexVal h = none) (l : Char) : hexEsc h l = none := by
  simp [hexEsc, hh]
theorem hexEsc_none_right {l : Char} (hl : hexVal l = none) (h : Char) : hexEsc h l = none := by
  unfold hexEsc; rw [hl]; cases hexVal h <;> rfl
theorem unescapeSt_xh_none {h : Char} (hh : hexVal h = none) (X : List Char) : unescapeSt (.xh h) X = none := by
  cases X <;> simp [unescapeSt, hexEsc_none_left hh]

theorem hexVal_lbrace : hexVal '{' = none := by decide
theorem hexVal_rbrace : hexVal '}' = none := by decide

theorem unescape_replace2 {F : List Char} (hF : BraceOk F) :
    ∀ st, unescapeSt st (replace2 F) = specSt (.esc st) F := by
  induction hF with
  | nil =>
    intro st
    rw [replace2_nil]
    cases st <;> simp [unescapeSt, specSt]
  | @lbrace r _ ih | @rbrace r _ ih =>
    -- between units the doubled brace reads as the brace; inside an escape both sides fail, a brace being neither an
    -- escape letter nor a hex digit
    intro st
    simp only [replace2_lbrace, replace2_rbrace]
    cases st <;>
      simp [unescapeSt, specSt, escChar, unescapeSt_xh_none, hexEsc_none_left, hexEsc_none_right, hexVal_lbrace,
        hexVal_rbrace] <;>
      exact congrArg _ (ih _)
  | @plain c r h1 h2 _ ih =>
    intro st
    rw [replace2_plain c r h1 h2]
    cases st with
    | normal =>
      by_cases hb : c = '\\'
      · simp [unescapeSt, specSt, hb, ih]
      · simp [unescapeSt, specSt, hb, h1, h2, ih]
    | bs =>
      by_cases hx : c = 'x'
      · simp [unescapeSt, specSt, hx, ih]
      · simp only [unescapeSt, specSt, hx, if_false, ih]
        cases escChar c <;> rfl
    | x => simp [unescapeSt, specSt, ih]
    | xh h =>
      simp only [unescapeSt, specSt, ih]
      cases hexEsc h c <;> rfl

theorem unescape_of_no_backslash (t : List Char) (h : t.contains '\\' = false) : unescape t = some t := by
  unfold unescape
  induction t with
  | nil => simp [unescapeSt]
  | cons c r ih =>
    simp only [List.contains_cons, Bool.or_eq_false_iff] at h
    have hc : c ≠ '\\' := by
      intro e; subst e; simp at h
    simp [unescapeSt, hc, ih h.2]

theorem unescapeText_eq (t : List Char) : unescapeText t = unescape t := by
  unfold unescapeText
  split
  · rfl
  · rename_i h
    rw [unescape_of_no_backslash t (by simpa using h)]

/-- What the scanner guarantees about a raw segment. -/
def SegOk : RawSeg → Prop
  | .text raw esc => BraceOk raw ∧ (esc = false → NoBrace raw)
  | .hole _ _ => True

def OkRes (r : Option (List RawSeg)) : Prop := ∀ segs, r = some segs → ∀ s ∈ segs, SegOk s

theorem OkRes.none : OkRes none := fun _ h => nomatch h

/-- The scanner's branch conditions play no part in `OkRes`: it passes through an `if` whatever is tested. -/
theorem OkRes.ite {c : Prop} [Decidable c] {a b : Option (List RawSeg)} (ha : OkRes a) (hb : OkRes b) :
    OkRes (if c then a else b) := by
  split <;> assumption

theorem OkRes.append {pre : List RawSeg} {r : Option (List RawSeg)} (hp : ∀ s ∈ pre, SegOk s) (hr : OkRes r) :
    OkRes ((pre ++ ·) <$> r) := by
  intro segs h s hs
  simp only [Option.map_eq_map, Option.map_eq_some_iff] at h
  obtain ⟨tl, htl, rfl⟩ := h
  rcases List.mem_append.1 hs with hs | hs
  · exact hp s hs
  · exact hr tl htl s hs

theorem flushText_ok {cur : List Char} {esc : Bool} (h : SegOk (.text cur esc)) : ∀ s ∈ flushText cur esc, SegOk s := by
  unfold flushText
  split
  · simp
  · simpa using h

theorem SegOk.nil : SegOk (.text [] false) := ⟨.nil, fun _ _ h => nomatch h⟩

theorem SegOk.escaped {cur : List Char} {esc : Bool} (h : SegOk (.text cur esc)) {t : List Char} (ht : BraceOk t) :
    SegOk (.text (cur ++ t) true) := ⟨h.1.append ht, nofun⟩

theorem SegOk.plain {cur : List Char} {esc : Bool} (h : SegOk (.text cur esc)) {c : Char} (h1 : c ≠ '{') (h2 : c ≠ '}') :
    SegOk (.text (cur ++ [c]) esc) :=
  ⟨h.1.append (.plain h1 h2 .nil), fun he => List.forall_mem_append.2 ⟨h.2 he, List.forall_mem_singleton.2 ⟨h1, h2⟩⟩⟩

mutual
theorem textMode_ok : ∀ (cs cur : List Char) (esc : Bool), SegOk (.text cur esc) → OkRes (textMode cur esc cs)
  | [], cur, esc, h => by
    rw [textMode]
    intro segs e
    cases e
    exact flushText_ok h
  | [c], cur, esc, h => by
    rw [textMode]
    split
    · exact .none
    · split
      · exact .none
      · rename_i h1 h2
        exact textMode_ok [] _ _ (h.plain h1 h2)
  | c :: d :: rest, cur, esc, h => by
    rw [textMode]
    split
    · split
      · exact textMode_ok rest _ _ (h.escaped (.lbrace .nil))
      · exact .append (flushText_ok h) (holeMode_ok (d :: rest) _ _)
    · split
      · split
        · exact textMode_ok rest _ _ (h.escaped (.rbrace .nil))
        · exact .none
      · rename_i h1 h2
        exact textMode_ok (d :: rest) _ _ (h.plain h1 h2)
theorem holeMode_ok : ∀ (cs cur : List Char) (st : HoleSt), OkRes (holeMode cur st cs)
  | [], cur, st => by
    rw [holeMode]
    exact .none
  | c :: rest, cur, st => by
    have more := holeMode_ok rest
    rw [holeMode]
    -- one `.ite` per `if` of `holeMode`, in its order
    exact .ite (.ite .none (.append (pre := [_]) (by simp [SegOk]) (textMode_ok rest _ _ .nil))) <|
      .ite (more _ _) <| .ite (more _ _) <| .ite (more _ _) <| .ite (more _ _) <| .ite (more _ _) <| .ite (more _ _) <|
      .ite .none <| .ite (more _ _) (more _ _)
end

theorem segments_ok {src : List Char} {segs : List RawSeg} (h : segments src = some segs) : ∀ s ∈ segs, SegOk s := by
  unfold segments at h
  split at h
  · cases h
    simpa using SegOk.nil
  · exact textMode_ok src [] false .nil segs h

/-- The specification's reading of one raw segment, as a runtime part (formatters are not part of the meaning). -/
def specSeg : RawSeg → Option Part
  | .text raw _ => (specText raw).map fun t => Part.text (utf8 t)
  | .hole raw esc =>
    (parseHole (finishHole raw esc).length none (finishHole raw esc)).map fun lf => Part.hole (utf8 lf.1) none

def specAll : List RawSeg → Option (List Part)
  | [] => some []
  | s :: r =>
    match specSeg s, specAll r with
    | some p, some ps => some (p :: ps)
    | _, _ => none

/-- The meaning of a template literal: its holes (by label) and the text between them, text read unit by unit
    (`specText`); `none` when the literal is not a template (single brace, broken escape, unreadable hole). -/
def literalMeaning (src : List Char) : Option (List Seg) :=
  match segments src with
  | none => none
  | some segs => (specAll segs).map norm

/-- A generated part as the meaning sees it: the formatter, hence the part's position, plays no role. -/
def MPart.plain : MPart → Part
  | .text t => .text (utf8 t)
  | .hole l _ => .hole (utf8 l) none

theorem norm_plain (ps : List MPart) (i : Nat) : norm (ps.map MPart.plain) = norm (toPartsFrom i ps) := by
  induction ps generalizing i with
  | nil => rfl
  | cons p ps ih => cases p <;> simp [norm, MPart.plain, toPartsFrom, ih (i + 1)]

theorem visitSeg_spec (ext : List (List Char × List Char)) (s : RawSeg) (p : MPart) (hs : SegOk s)
    (h : visitSeg ext s = some p) : specSeg s = some p.plain := by
  cases s with
  | text raw esc =>
    obtain ⟨hb, hn⟩ := hs
    have hfin : finishText raw esc = replace2 raw := by
      unfold finishText
      cases esc with
      | true => rfl
      | false => simp [replace2_noBrace (hn rfl)]
    simp only [visitSeg, hfin, unescapeText_eq, unescape, unescape_replace2 hb, Option.map_eq_some_iff] at h
    obtain ⟨t, ht, rfl⟩ := h
    simp [specSeg, specText, ht, MPart.plain]
  | hole raw esc =>
    simp only [visitSeg] at h
    split at h
    · simp at h
    · rename_i label flags hp
      cases h
      simp [specSeg, hp, MPart.plain]

theorem visitAll_spec (ext : List (List Char × List Char)) (segs : List RawSeg) (parts : List MPart)
    (hok : ∀ s ∈ segs, SegOk s) (h : visitAll ext segs = some parts) :
    specAll segs = some (parts.map MPart.plain) := by
  induction segs generalizing parts with
  | nil => cases h; rfl
  | cons s r ih =>
    simp only [visitAll] at h
    split at h
    · rename_i p ps hp hps
      cases h
      simp only [specAll, visitSeg_spec ext s p (hok s (by simp)) hp,
        ih ps (fun s' hs' => hok s' (by simp [hs'])) hps, List.map_cons]
    · simp at h

/-- Text without braces is scanned as one fragment. -/
theorem textMode_plain (cs cur : List Char) (esc : Bool) (h : NoBrace cs) :
    textMode cur esc cs = some (flushText (cur ++ cs) esc) := by
  induction cs generalizing cur with
  | nil => simp [textMode]
  | cons c r ih =>
    have hc := h c (by simp)
    rw [textMode.eq_def]
    simp only [hc.1, hc.2, if_false]
    rw [ih (cur ++ [c]) (fun d hd => h d (by simp [hd]))]
    simp

/-- No hole of the literal carries `#[emit::fmt]` flags. -/
def NoFlags (parts : List MPart) : Prop := ∀ l f, MPart.hole l f ∈ parts → f = none

theorem noFmt_toParts (parts : List MPart) (h : NoFlags parts) : NoFmt (toParts parts) := by
  unfold toParts
  generalize 0 = i
  induction parts generalizing i with
  | nil => intro l f hm; simp [toPartsFrom] at hm
  | cons p ps ih =>
    have h' : NoFlags ps := fun l f hm => h l f (by simp [hm])
    cases p with
    | text t =>
      intro l f hm
      simp only [toPartsFrom, List.mem_cons, reduceCtorEq, false_or] at hm
      exact ih h' (i + 1) l f hm
    | hole l0 f0 =>
      have hf : f0 = none := h l0 f0 (by simp)
      subst hf
      intro l f hm
      simp only [toPartsFrom, Option.map_none, List.mem_cons, Part.hole.injEq] at hm
      rcases hm with ⟨_, rfl⟩ | hm
      · rfl
      · exact ih h' (i + 1) l f hm

end EmitModel.TemplateMacro
