/-
  Lemmas/Props.lean — helper lemmas for C02 (Model/Props.lean).
-/
import EmitModel.Model.Props

namespace EmitModel.Props
open EmitModel.Assoc Std

/-- The uncurried visitor. -/
abbrev unc {σ : Type} (f : Visitor σ) : σ → String × Val → σ × Bool := fun s kv => f s kv.1 kv.2

theorem foldUntil_macro {σ : Type} (f : Visitor σ) (s : σ) (es : List (String × Option Val)) :
    foldUntil (fun s (kv : String × Option Val) => match kv.2 with
                           | some v => f s kv.1 v
                           | none => (s, false)) s es
      = foldUntil (unc f) s (macroEnum es) := by
  induction es generalizing s with
  | nil => rfl
  | cons a es ih =>
    obtain ⟨k, ov⟩ := a
    cases ov with
    | none => simp [foldUntil, macroEnum, ih]
    | some v =>
      simp only [foldUntil, macroEnum, unc]
      rcases h : f s k v with ⟨s', b⟩
      cases b <;> simp [ih]

theorem foldUntil_singleton {σ α : Type} (f : σ → α → σ × Bool) (s : σ) (x : α) :
    foldUntil f s [x] = f s x := by
  simp only [foldUntil]
  rcases f s x with ⟨s', b⟩
  cases b <;> rfl

theorem andThen_foldUntil {σ α : Type} (f : σ → α → σ × Bool) (s : σ) (xs ys : List α) :
    andThen (foldUntil f s xs) (fun s' => foldUntil f s' ys) = foldUntil f s (xs ++ ys) := by
  rw [foldUntil_append]; rfl

mutual
/-- **Master lemma.** `for_each` with any visitor is the break-honouring fold of that visitor over the
    enumeration — for every collection, visitor and initial state. -/
theorem forEach_eq {σ : Type} : ∀ (p : P) (f : Visitor σ) (s : σ),
    forEach p f s = foldUntil (unc f) s (enum p)
  | .pair k v, f, s => by simp [forEach, enum, foldUntil_singleton]
  | .slice ps, f, s | .arr ps, f, s => by simp only [forEach, enum]; exact forEachList_eq ps f s
  | .btree _, f, s | .hash _, f, s | .frame _, f, s | .optNone, f, s | .empty, f, s | .extentPoint _, f, s
  | .extentRange _ _, f, s | .spanCtxt _ _ _, f, s => by simp [forEach, enum]
  -- the impls that forward `for_each`
  | .optSome p, f, s | .ref p, f, s | .boxed p, f, s | .shared p, f, s | .erased p, f, s | .asMap p, f, s
  | .slot p, f, s => by simp only [forEach, enum]; exact forEach_eq p f s
  | .and a b, f, s => by simp only [forEach, enum, forEach_eq a f s, forEach_eq b f, andThen_foldUntil]
  | .dedup p, f, s => by
    simp only [forEach, enum]
    split
    · exact forEach_eq p f s
    -- the inner pass never breaks: a fold of `entry().or_insert()`, which is `collectFirst`
    · rw [forEach_eq p, foldUntil_never]; rfl
  | .macro es, f, s => by simp only [forEach, enum]; exact foldUntil_macro f s es
  | .spanView name p, f, s | .metricView name agg v p, f, s => by
    simp only [forEach, enum, forEach_eq p f]; exact andThen_foldUntil ..
theorem forEachList_eq {σ : Type} : ∀ (ps : List P) (f : Visitor σ) (s : σ),
    forEachList ps f s = foldUntil (unc f) s (enumList ps)
  | [], f, s => by simp [forEachList, enumList]
  | p :: ps, f, s => by simp only [forEachList, enumList, forEach_eq p f s, forEachList_eq ps f, andThen_foldUntil]
end

/-- The finder visitor of the default `get` over a list: the first-wins lookup. -/
theorem foldUntil_finder (key : String) (xs : List (String × Val)) (r : Option Val) :
    (foldUntil (unc fun (value : Option Val) k v => if k = key then (some v, true) else (value, false)) r xs).1
      = (lookupFirst key xs).or r := by
  induction xs generalizing r with
  | nil => simp
  | cons a xs ih =>
    obtain ⟨k, v⟩ := a
    simp only [foldUntil, unc, lookupFirst_cons]
    by_cases h : k = key <;> simp [h, ih]

theorem scan_eq (p : P) (key : String) : scan p key = lookupFirst key (enum p) := by
  simp [scan, forEach_eq, foldUntil_finder]

theorem btreeGet_eq {es : List (String × Val)} (h : Sorted compare es) (q : String) :
    btreeGet es q = lookupFirst q es := by
  fun_induction btreeGet es q with
  | case1 => rfl
  | case2 k v rest q hc ih =>
    have : k ≠ q := ReflCmp.ne_of_cmp_ne_eq (fun h => nomatch hc.symm.trans h)
    rw [lookupFirst_cons, if_neg this, ih (List.pairwise_cons.1 h).2]
  | case3 k v rest q hc =>
    cases LawfulEqCmp.eq_of_compare hc
    simp [lookupFirst_cons]
  | case4 k v rest q hc => exact (lookupFirst_eq_none_of_lt h (OrientedCmp.lt_of_gt hc)).symm

theorem lookupFirst_enum_dedup (p : P) (q : String) :
    lookupFirst q (enum (.dedup p)) = lookupFirst q (enum p) := by
  simp only [enum]
  split
  · rfl
  · exact lookupFirst_collectFirst _ _

end EmitModel.Props
