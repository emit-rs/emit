/-
  Lemmas/BatcherFrame.lean — what a processor sees of the channel: the steps OTHER than handing it a batch and the
  conclusion of a call leave the finalised items and the batch the receiver holds alone; those two do what the
  processor's verdict says. Shared by the proofs about the composites of the channel with an emitter's processor
  (Lemmas/FilePipe.lean, Lemmas/OtlpPipe.lean).
-/
import EmitModel.Lemmas.Batcher

namespace EmitModel.Batcher

/-- The batch the receiver holds inside / between `on_batch` calls: (first-attempt items, items of the current or
    next call). -/
def Rx.held : Rx → Option (List Nat × List Nat)
  | .processing o c _ => some (o, c)
  | .retryWait o r _ => some (o, r)
  | _ => none

@[simp] theorem held_afterNotify (ws : List Nat) : (afterNotify ws).held = none := by
  cases ws <;> rfl

/-- The `.chan` half of a composite's step function (Model/FilePipe.lean, Model/OtlpPipe.lean), where the conclusion of
    a call is not a channel label. -/
def chanStep {σ : Type} (cfg : Cfg) (ch : St) (setCh : St → σ) (onBegin : St → List Nat → σ) : Label → Option σ
  | .rxOutcome _ => none
  | .rxBegin =>
    match step cfg ch .rxBegin with
    | none => none
    | some ch' =>
      match ch'.rx with
      | .processing _ c _ => some (onBegin ch' c)
      | _ => some (setCh ch')
  | l => (step cfg ch l).map setCh

theorem chanStep_some {σ : Type} {cfg : Cfg} {ch : St} {setCh : St → σ} {onBegin : St → List Nat → σ} {l : Label}
    {t : σ} (h : chanStep cfg ch setCh onBegin l = some t) :
    ∃ ch', step cfg ch l = some ch' ∧ ch'.finalised = ch.finalised ∧
      ((l = .rxBegin ∧ ∃ b fw, b ≠ [] ∧ ch'.rx = .processing b b fw ∧ ch'.retryCur = 0 ∧ t = onBegin ch' b) ∨
       (t = setCh ch' ∧ (ch'.rx.held = none ∨ ch'.rx.held = ch.rx.held ∧ ch'.retryCur = ch.retryCur))) := by
  have plain : ∀ {ch'}, step cfg ch l = some ch' → (∀ o, l ≠ .rxOutcome o) → l ≠ .rxBegin →
      ch'.finalised = ch.finalised ∧ (ch'.rx.held = none ∨ ch'.rx.held = ch.rx.held ∧ ch'.retryCur = ch.retryCur) := by
    intro ch' hs ho hb
    cases Step.of_step hs with
    | begin | «return» | idleWait => exact absurd rfl hb
    | retry | conclude => exact absurd rfl (ho _)
    | take | fireTake | fireFlushEmpty | idleWaited | dropReceiver => exact ⟨rfl, .inl rfl⟩
    | fireFlush => exact ⟨rfl, .inl (held_afterNotify _)⟩
    | _ => exact ⟨rfl, .inr ⟨rfl, rfl⟩⟩
  cases l with
  | rxOutcome o => cases h
  | rxBegin =>
    simp only [chanStep] at h
    cases hs : step cfg ch .rxBegin with
    | none => simp [hs] at h
    | some ch' =>
      simp only [hs] at h
      refine ⟨ch', rfl, ?_⟩
      cases Step.of_step hs with
      | begin s b fw o hb => cases h; exact ⟨rfl, .inl ⟨rfl, b, fw, hb, rfl, rfl, rfl⟩⟩
      | «return» | idleWait => cases h; exact ⟨rfl, .inr ⟨rfl, .inl rfl⟩⟩
  | _ =>
    obtain ⟨ch', hs, rfl⟩ := Option.map_eq_some_iff.mp h
    exact ⟨ch', hs, (plain hs nofun nofun).1, .inr ⟨rfl, (plain hs nofun nofun).2⟩⟩

theorem rxOutcome_frame (cfg : Cfg) (s s' : St) (o : Outcome) {orig cu ws : List Nat}
    (hrx : s.rx = .processing orig cu ws) (hs : step cfg s (.rxOutcome o) = some s') :
    (∃ rem, o = .failRetry rem ∧ rem ≠ [] ∧ s.retryCur < cfg.retryMax ∧ s'.rx = .retryWait orig rem ws ∧
        s'.finalised = s.finalised ∧ s'.retryCur = s.retryCur + 1) ∨
    (s'.rx.held = none ∧ s'.finalised = s.finalised ++ orig ∧
        ∀ rem, o = .failRetry rem → rem = [] ∨ cfg.retryMax ≤ s.retryCur) := by
  cases Step.of_step hs with
  | retry s _ _ _ rem hr hc => cases hrx; exact .inl ⟨rem, rfl, hr, hc, rfl, rfl, rfl⟩
  | conclude s o _ _ _ _ _ _ _ hfin =>
    cases hrx; exact .inr ⟨held_afterNotify _, rfl, fun rem e => (hfin rem e).imp_right Nat.le_of_lt_succ⟩

theorem accepted_step (cfg : Cfg) (s s' : St) (l : Label) (hs : step cfg s l = some s') :
    (∀ x ∈ s.accepted, x ∈ s'.accepted) ∧
    (∀ x ∈ s'.accepted, x ∈ s.accepted ∨ l = .send x ∨ l = .trySend x) ∧
    (∀ p ∈ s'.acceptedAt, p ∈ s.acceptedAt ∨ p.2 = s.accepted) := by
  have push : ∀ (x : Nat) (l : Label), l = .send x ∨ l = .trySend x →
      (∀ y ∈ s.accepted, y ∈ s.accepted ++ [x]) ∧ (∀ y ∈ s.accepted ++ [x], y ∈ s.accepted ∨ l = .send y ∨ l = .trySend y) ∧
      ∀ p ∈ s.acceptedAt, p ∈ s.acceptedAt ∨ p.2 = s.accepted :=
    fun x l hl => ⟨fun y hy => List.mem_append_left _ hy, fun y hy => (List.mem_append.mp hy).imp_right fun hy => by
      rw [List.mem_singleton.mp hy]; exact hl, fun p hp => .inl hp⟩
  cases Step.of_step hs with
  | sendTrunc s x | send s x => exact push x _ (.inl rfl)
  | trySend s x => exact push x _ (.inr rfl)
  | whenFlushedNow | whenFlushedLater =>
    exact ⟨fun _ hx => hx, fun _ hx => .inl hx, fun p hp => (List.mem_append.mp hp).imp_right fun hp => by
      rw [List.mem_singleton.mp hp]⟩
  | _ => exact ⟨fun _ hx => hx, fun _ hx => .inl hx, fun _ hp => .inl hp⟩

structure InvAcc (s : St) : Prop where
  sub : ∀ p ∈ s.acceptedAt, ∀ x ∈ p.2, x ∈ s.accepted

theorem invAcc_reachable (cfg : Cfg) (s : St) (h : Reachable cfg s) : InvAcc s := by
  refine Sched.invariant_of_step (Inv := InvAcc) ⟨by simp [init]⟩ ?_ s h
  intro s l s' hi hs
  obtain ⟨h1, _, h3⟩ := accepted_step cfg s s' l hs
  refine ⟨fun p hp x hx => ?_⟩
  rcases h3 p hp with hp | hp
  · exact h1 x (hi.sub p hp x hx)
  · rw [hp] at hx; exact h1 x hx

theorem send_accepted (cfg : Cfg) (s : St) (x : Nat) :
    (send cfg s x).accepted = s.accepted ∨ (send cfg s x).accepted = s.accepted ++ [x] := by
  rw [send_eq]
  split <;> split <;> simp

end EmitModel.Batcher
