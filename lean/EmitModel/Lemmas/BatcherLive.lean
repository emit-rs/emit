/-
  Lemmas/BatcherLive.lean — bounded liveness of the receiver (C08) by ranking functions over `Base/Sched.progress_within`:
  `phase` (distance to the loop head), one lemma for whatever waits in the pending batch to be taken over by the
  receiver (`handed_within`), the drain after the sender is dropped (`drains_within`).
-/
import EmitModel.Lemmas.BatcherBound
namespace EmitModel.Batcher
open EmitModel.Sched

/-- Upper bound on the receiver LOOP steps (callback invocations not counted) until the receiver is back at the
    head of its loop (or has returned); `c` = `Retry.current`. A retry is two steps (the failing outcome, the wait
    running out) and at most `retryMax - c` of them are left before the concluding outcome; a taken non-empty batch
    is one `rxBegin` before `processing` with `c = 0`. -/
def phaseRx (cfg : Cfg) (c : Nat) : Rx → Nat
  | .idle => 0
  | .taken b _ _ o => if b.length > 0 then 2 * cfg.retryMax + 2 else if o then 2 else 1
  | .processing _ _ _ => 2 * (cfg.retryMax - c) + 1
  | .retryWait _ _ _ => 2 * (cfg.retryMax - c) + 2
  | .notifying _ => 0
  | .idleWait => 1
  | .done => 0

def phase (cfg : Cfg) (s : St) : Nat := phaseRx cfg s.retryCur s.rx

@[simp] theorem phaseRx_idle (cfg : Cfg) (c : Nat) : phaseRx cfg c .idle = 0 := rfl
@[simp] theorem phaseRx_taken (cfg : Cfg) (c : Nat) (b tw fw : List Nat) (o : Bool) :
    phaseRx cfg c (.taken b tw fw o) = if b.length > 0 then 2 * cfg.retryMax + 2 else if o then 2 else 1 := rfl
@[simp] theorem phaseRx_processing (cfg : Cfg) (c : Nat) (a b ws : List Nat) :
    phaseRx cfg c (.processing a b ws) = 2 * (cfg.retryMax - c) + 1 := rfl
@[simp] theorem phaseRx_retryWait (cfg : Cfg) (c : Nat) (a b ws : List Nat) :
    phaseRx cfg c (.retryWait a b ws) = 2 * (cfg.retryMax - c) + 2 := rfl
@[simp] theorem phaseRx_notifying (cfg : Cfg) (c : Nat) (ws : List Nat) : phaseRx cfg c (.notifying ws) = 0 := rfl
@[simp] theorem phaseRx_idleWait (cfg : Cfg) (c : Nat) : phaseRx cfg c .idleWait = 1 := rfl
@[simp] theorem phaseRx_done (cfg : Cfg) (c : Nat) : phaseRx cfg c .done = 0 := rfl
@[simp] theorem phaseRx_afterNotify (cfg : Cfg) (c : Nat) (ws : List Nat) : phaseRx cfg c (afterNotify ws) = 0 := by
  cases ws <;> rfl

theorem phase_le (cfg : Cfg) (s : St) (h : InvBound cfg s) : phase cfg s ≤ 2 * cfg.retryMax + 2 := by
  unfold phase
  cases hrx : s.rx
  case retryWait o r w => have := (h.rwait o r w hrx); simp; omega
  case taken b tw fw o => simp; split <;> (try split) <;> omega
  all_goals simp <;> omega

theorem phase_step_rx (cfg : Cfg) (s : St) (l : Label) (s' : St) (h : InvBound cfg s) (hl : l.isRx = true)
    (hne : s.rx ≠ .idle) (hs : step cfg s l = some s') : phase cfg s' < phase cfg s := by
  cases Step.of_step hs with
  | take => exact absurd rfl hne
  | begin s b fw o hb => cases b <;> simp_all [phase]
  | retry s orig cur ws rem hr hc => simp only [phase, phaseRx_processing, phaseRx_retryWait]; omega
  | retryWaited =>
    have := (h.rwait _ _ _ rfl).2.1
    simp only [phase, phaseRx_processing, phaseRx_retryWait] at this ⊢; omega
  | «return» | idleWait | idleWaited | conclude => simp [phase]
  | _ => cases hl

theorem phase_env (cfg : Cfg) (s : St) (l : Label) (s' : St) (hl : l.isRx = false) (hd : l ≠ .dropReceiver)
    (hs : step cfg s l = some s') : phase cfg s' = phase cfg s := by
  cases Step.of_step hs with
  | dropReceiver => exact absurd rfl hd
  | fireFlush => simp [phase]
  | take | begin | «return» | idleWait | retry | conclude | retryWaited | idleWaited => cases hl
  | _ => rfl

/-- A flush callback, a `when_empty` callback and an item all wait in the shared pending batch (`Pend`) until the next
    hand-off, travel with the receiver for a while (`Held`, for at most `hr` further loop steps) and are then through
    (`Goal`, which also holds once the receiver is torn down). -/
theorem handed_within (cfg : Cfg) {Pend Held Goal : St → Prop} [DecidablePred Held] {hr : St → Nat} {H : Nat}
    (hH : ∀ s, InvBound cfg s → hr s ≤ H)
    (pend : ∀ s l s', step cfg s l = some s' → Pend s → Goal s' ∨ Pend s' ∨ Held s')
    (held : ∀ s l s', InvBound cfg s → l ≠ .dropReceiver → step cfg s l = some s' → Held s →
      Goal s' ∨ (Held s' ∧ if l.isRx then hr s' < hr s else hr s' ≤ hr s))
    (stable : ∀ s l s', step cfg s l = some s' → Goal s → Goal s')
    (teardown : ∀ s, s.tornDown = true → Goal s)
    (emptied : ∀ s, s.pending = [] → s.pendFlushW = [] → s.pendTakeW = [] → ¬ Pend s)
    (s : St) (hb : InvBound cfg s) (hloc : Pend s ∨ Held s) (ls : List Label) (s' : St)
    (hrun : run (step cfg) s ls = some s') (hk : 2 * cfg.retryMax + 3 + H < countSel Label.isRx ls) : Goal s' := by
  -- not yet held: back to the loop head (`phase`), the hand-off, then whatever being held costs (`H`); `phase_le`
  -- makes that at most `2·retryMax + 3 + H`
  let rank : St → Nat := fun s => if Held s then hr s else phase cfg s + 1 + H
  have torn : ∀ a b, step cfg a .dropReceiver = some b → Goal b := fun a b st =>
    teardown b (by cases Step.of_step st; rfl)
  refine progress_within (Inv := fun s => InvBound cfg s ∧ (Goal s ∨ Pend s ∨ Held s)) (Goal := Goal)
    (isRx := Label.isRx) (rank := rank) ?_ (fun a l b _ ga st => stable a l b st ga) ?_ ?_ ls s s' ⟨hb, .inr hloc⟩ hrun ?_
  · intro a l b ⟨ib, hl⟩ st
    refine ⟨invBound_step cfg a l b ib st, ?_⟩
    rcases hl with g | hp | hh
    · exact .inl (stable a l b st g)
    · exact pend a l b st hp
    · by_cases hd : l = .dropReceiver
      · exact .inl (torn a b (hd ▸ st))
      · exact (held a l b ib hd st hh).imp_right fun h => .inr h.1
  · intro a l b ⟨ib, hl⟩ ng hrx st
    have hl := hl.resolve_left ng
    have hb' := hH b (invBound_step cfg a l b ib st)
    by_cases hh : Held a
    · refine (held a l b ib (fun e => by subst e; cases hrx) st hh).imp_right fun ⟨hh', lt⟩ => ?_
      simp only [rank, hh, hh', if_true]
      simpa [hrx] using lt
    · by_cases hi : a.rx = .idle
      · -- the loop step at the loop head is the hand-off, which leaves nothing pending
        have he : ¬ Pend b := by
          cases Step.of_step st with
          | take => exact emptied _ rfl rfl rfl
          | begin | «return» | idleWait | retry | conclude | retryWaited | idleWaited => simp at hi
          | _ => cases hrx
        refine ((pend a l b st (hl.resolve_right hh)).imp_right fun h => h.resolve_left he).imp_right fun hh' => ?_
        simp only [rank, hh, hh', if_true, if_false]; omega
      · have := phase_step_rx cfg a l b ib hrx hi st
        right
        simp only [rank, hh, if_false]
        split <;> omega
  · intro a l b ⟨ib, _⟩ ng hrx st
    by_cases hd : l = .dropReceiver
    · exact .inl (torn a b (hd ▸ st))
    · have hb' := hH b (invBound_step cfg a l b ib st)
      have hp := phase_env cfg a l b hrx hd st
      by_cases hh : Held a
      · refine (held a l b ib hd st hh).imp_right fun ⟨hh', le⟩ => ?_
        simp only [rank, hh, hh', if_true]
        simpa [hrx] using le
      · right
        simp only [rank, hh, if_false, hp]
        split <;> omega
  · have := phase_le cfg s hb
    have := hH s hb
    simp only [rank]
    split <;> omega

/-- Loop steps still needed once the sender is gone: back to the loop head, one more pass if something is queued,
    then the empty hand-off that sees the channel closed, and the return. -/
def rankD (cfg : Cfg) (s : St) : Nat :=
  match s.rx with
  | .done => 0
  | .taken [] _ _ false => 1
  | _ => phase cfg s + if s.pending = [] then 2 else 2 * cfg.retryMax + 5

/-- `rankD` is at most `(2·retryMax + 2) + (2·retryMax + 5) = 4·retryMax + 7` (`phase_le`) and every loop step lowers
    it, so a run with more loop steps than that has reached `.done` — where no loop step is enabled. -/
theorem drains_within (cfg : Cfg) (s : St) (hb : InvBound cfg s) (ha : s.senderAlive = false)
    (ho : s.isOpen = false) (ls : List Label) (s' : St)
    (hrun : run (step cfg) s ls = some s') (hk : 4 * cfg.retryMax + 7 < countSel Label.isRx ls) :
    s'.rx = .done := by
  refine progress_within (Inv := fun s => InvBound cfg s ∧ s.senderAlive = false ∧ s.isOpen = false)
    (Goal := fun s => s.rx = .done) (isRx := Label.isRx) (rank := rankD cfg) ?_ ?_ ?_ ?_ ls s s' ⟨hb, ha, ho⟩ hrun ?_
  · intro s l s' ⟨ib, ha, ho⟩ hs
    refine ⟨invBound_step cfg s l s' ib hs, ?_⟩
    cases Step.of_step hs with
    | «return» | dropReceiver => exact ⟨ha, rfl⟩
    | dropSender => exact ⟨rfl, rfl⟩
    | _ => exact ⟨ha, ho⟩
  · intro s l s' _ hg hs
    cases Step.of_step hs with
    | dropReceiver => rfl
    | sendTrunc | sendTruncClosed | send | sendClosed | trySend | trySendRefused | whenFlushedNow | whenFlushedLater
    | whenEmptyNow | whenEmptyLater | dropSender => exact hg
    | _ => cases hg
  · intro s l s' ⟨ib, ha, ho⟩ _ hl hs
    have hp := phase_step_rx cfg s l s' ib hl
    cases Step.of_step hs with
    | take s =>
      right; simp only [show s.isOpen = false from ho]
      cases hq : s.pending <;> simp [rankD, phase]
    | begin s b fw o hb' => right; cases b <;> simp_all [rankD, phase]
    | «return» => exact .inl rfl
    | idleWait | retry | retryWaited | idleWaited =>
      have := hp (by simp) hs; right; simp only [rankD] at this ⊢; simp only [phase] at this ⊢; omega
    | conclude s o orig cur ws =>
      have := hp (by simp) hs; right; cases ws <;> simp_all [rankD, phase, afterNotify] <;> omega
    | _ => cases hl
  · intro s l s' ⟨_, ha, _⟩ _ hl hs
    cases Step.of_step hs with
    | dropReceiver => exact .inl rfl
    | fireTake s b w tw fw o => right; cases b <;> cases o <;> simp [rankD, phase]
    | fireFlushEmpty s w fw o => right; cases o <;> simp [rankD, phase]
    | fireFlush s w ws => right; cases ws <;> simp [rankD, phase, afterNotify]
    | take | begin | «return» | idleWait | retry | conclude | retryWaited | idleWaited => cases hl
    | _ => simp_all
  · have := phase_le cfg s hb
    unfold rankD
    split <;> (try split) <;> omega

/-- `returned` is the claim: a receiver that has returned (not: was torn down) leaves nothing queued and no sender;
    `closing` is the same one step earlier, at the empty hand-off that read the channel closed, and `open_` (the
    channel stays open while both halves are there) is what makes that hand-off imply the sender is gone. -/
structure InvDrain (s : St) : Prop where
  open_ : s.rx ≠ .done → s.senderAlive = true → s.isOpen = true
  closing : ∀ b tw fw, s.rx = .taken b tw fw false →
    s.senderAlive = false ∧ s.pending = [] ∧ s.pendFlushW = [] ∧ s.pendTakeW = []
  returned : s.rx = .done → s.tornDown = false →
    s.senderAlive = false ∧ s.pending = [] ∧ s.pendFlushW = [] ∧ s.pendTakeW = []

theorem invDrain_step (cfg : Cfg) (s : St) (l : Label) (s' : St) (h : InvDrain s)
    (hs : step cfg s l = some s') : InvDrain s' := by
  -- with the sender there the receiver neither closes nor has returned
  have sender : s.senderAlive = true → ∀ {t : St}, t.rx = s.rx → t.senderAlive = s.senderAlive → t.isOpen = s.isOpen →
      t.tornDown = s.tornDown → InvDrain t := fun ha t e1 e2 e3 e4 =>
    ⟨by rw [e1, e2, e3]; exact h.open_, fun b tw fw hr => by simp [(h.closing b tw fw (e1 ▸ hr)).1] at ha,
      fun hr ht => by simp [(h.returned (e1 ▸ hr) (e4 ▸ ht)).1] at ha⟩
  have closed : s.rx ≠ .done → s.isOpen = false → s.senderAlive = false := fun hr ho =>
    Bool.eq_false_iff.mpr fun ha => by simp [h.open_ hr ha] at ho
  cases Step.of_step hs with
  | sendTrunc s x ha | sendTruncClosed s x ha | send s x ha | sendClosed s x ha | trySend s x ha | trySendRefused s x ha
  | whenFlushedNow s w ha | whenFlushedLater s w ha | whenEmptyNow s w ha | whenEmptyLater s w ha => exact sender ha rfl rfl rfl rfl
  | dropSender => exact ⟨nofun, fun b tw fw e => ⟨rfl, (h.closing b tw fw e).2⟩,
      fun e t => ⟨rfl, (h.returned e t).2⟩⟩
  | take s =>
    exact ⟨fun _ => h.open_ (by simp), fun _ _ _ e => ⟨closed (by simp) (by injection e), rfl, rfl, rfl⟩,
      nofun⟩
  | fireTake | fireFlushEmpty =>
    exact ⟨fun _ => h.open_ (by simp), fun _ _ _ e => by cases e; exact h.closing _ _ _ rfl, nofun⟩
  | «return» => exact ⟨fun e => absurd rfl e, nofun, fun _ _ => h.closing _ _ _ rfl⟩
  | dropReceiver => exact ⟨fun e => absurd rfl e, nofun, nofun⟩
  | _ => exact ⟨fun _ => h.open_ (by simp), fun _ _ _ e => by simp at e, fun e => by simp at e⟩

theorem invDrain_reachable (cfg : Cfg) (s : St) (h : Reachable cfg s) : InvDrain s :=
  invariant_of_step (by constructor <;> simp [init]) (invDrain_step cfg) s h

theorem closed_of_sender_gone (cfg : Cfg) (s : St) (h : Reachable cfg s) : s.senderAlive = false → s.isOpen = false :=
  invariant_of_step (Inv := fun t => t.senderAlive = false → t.isOpen = false) (by simp [init])
    (fun a l b ia st => by
      cases Step.of_step st with
      | dropSender | «return» | dropReceiver => exact fun _ => rfl
      | _ => exact ia) s h

end EmitModel.Batcher
