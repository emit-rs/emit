/-
  Lemmas/FileSetRun.lean — histories: arbitrary lists of batches and restarts, and the invariant along them.
  At the end, the cursor of a batch (`Batch.Wf`).
-/
import EmitModel.Lemmas.FileSetWalk

namespace EmitModel.FileSet

/-- One thing that happens to the worker: a batch arrives (at a clock reading, with the id the rng would give if
    a file is created), or the worker is dropped and constructed again. -/
inductive Op where
  | batch (now : Parts) (id : Nat) (b : Batch)
  | restart

def Op.events : Op → List (List Nat)
  | .batch _ _ b => b.rest
  | .restart => []

def runOp (cfg : Config) (plan : Nat → Fault) (s : St) : Op → St
  | .batch now id b => (onBatch cfg plan now id b s).2
  | .restart => restart s

def run (cfg : Config) (plan : Nat → Fault) (s : St) (ops : List Op) : St := ops.foldl (runOp cfg plan) s

def emptyState : St := { fs := [], op := 0, active := none, log := [], faulted := false }

theorem inv_emptyState (cfg : Config) (E : List Nat → Prop) (c : Nat) : Inv cfg E c emptyState :=
  ⟨by simp [NamesNodup, names, emptyState], fun n f h => by simp [emptyState, fsGet] at h,
    fun a h => by simp [emptyState] at h⟩

theorem runOp_inv {cfg : Config} {E : List Nat → Prop} {c : Nat} (hsep : SepOk cfg E c) (plan : Nat → Fault)
    {s : St} (op : Op) (hE : ∀ e ∈ op.events, E e) (hinv : Inv cfg E c s) : Inv cfg E c (runOp cfg plan s op) := by
  cases op with
  | batch now id b => exact onBatch_inv hsep plan now id b s hE hinv
  | restart => exact ⟨hinv.nodup, hinv.good, fun a h => by simp [runOp, restart] at h⟩

theorem run_induct {cfg : Config} {E : List Nat → Prop} {c : Nat} (hsep : SepOk cfg E c) (plan : Nat → Fault)
    {T : St → St → Prop} (hrefl : ∀ s, T s s) (htrans : ∀ {s s' s''}, T s s' → T s' s'' → T s s'')
    (hop : ∀ (s : St) (op : Op), Inv cfg E c s → (∀ e ∈ op.events, E e) → T s (runOp cfg plan s op))
    (ops : List Op) :
    ∀ (s : St), Inv cfg E c s → (∀ op ∈ ops, ∀ e ∈ op.events, E e) →
      Inv cfg E c (run cfg plan s ops) ∧ T s (run cfg plan s ops) := by
  induction ops with
  | nil => intro s h _; exact ⟨h, hrefl s⟩
  | cons op ops ih =>
    intro s h hE
    have hE1 := hE op (by simp)
    obtain ⟨h1, h2⟩ := ih _ (runOp_inv hsep plan op hE1 h) (fun o ho => hE o (by simp [ho]))
    exact ⟨h1, htrans (hop s op h hE1) h2⟩

theorem run_inv {cfg : Config} {E : List Nat → Prop} {c : Nat} (hsep : SepOk cfg E c) (plan : Nat → Fault)
    (ops : List Op) (s : St) (h : Inv cfg E c s) (hE : ∀ op ∈ ops, ∀ e ∈ op.events, E e) :
    Inv cfg E c (run cfg plan s ops) :=
  (run_induct hsep plan (T := fun _ _ => True) (fun _ => trivial) (fun _ _ => trivial) (fun _ _ _ _ => trivial) ops s h
    hE).1

theorem run_rel {cfg : Config} {E : List Nat → Prop} {c : Nat} (hsep : SepOk cfg E c) (plan : Nat → Fault)
    (ops : List Op) (s : St) (h : Inv cfg E c s) (hE : ∀ op ∈ ops, ∀ e ∈ op.events, E e) :
    Rel cfg (fun _ => True) s (run cfg plan s ops) := by
  refine (run_induct hsep plan (Rel.refl cfg _) Rel.trans (fun s op hinv hE => ?_) ops s h hE).2
  cases op with
  | batch now id b => exact onBatch_rel hsep plan now id b s trivial hE hinv
  | restart => exact Rel.of_same_fs [] (by simp [runOp, restart]) (by simp) (by simp) rfl

theorem run_calm {cfg : Config} {E : List Nat → Prop} {c : Nat} (hsep : SepOk cfg E c) {plan : Nat → Fault}
    (hc : Calm plan) (ops : List Op) (s : St) (h : Inv cfg E c s) (hE : ∀ op ∈ ops, ∀ e ∈ op.events, E e) :
    (run cfg plan s ops).faulted = s.faulted := by
  refine (run_induct hsep plan (T := fun s s' => s'.faulted = s.faulted) (fun _ => rfl) (fun h1 h2 => h2.trans h1)
    (fun s op hinv hE => ?_) ops s h hE).2
  cases op with
  | batch now id b => exact (onBatch_spec (N := fun _ => True) hsep plan now id b s trivial hE hinv).calm hc
  | restart => rfl

/-- The cursor is inside the buffers and `remaining_bytes` is the total length of the events from the cursor on. -/
def Batch.Wf (b : Batch) : Prop := b.index ≤ b.bufs.length ∧ b.remaining = (b.rest.map List.length).sum

theorem Batch.wf_empty : Batch.empty.Wf := by simp [Batch.Wf, Batch.empty, Batch.rest]

theorem Batch.rest_push {b : Batch} (h : b.index ≤ b.bufs.length) (e : List Nat) : (b.push e).rest = b.rest ++ [e] := by
  simp only [Batch.rest, Batch.push]
  exact List.drop_append_of_le_length h

theorem Batch.wf_push {b : Batch} (h : b.Wf) (e : List Nat) : (b.push e).Wf := by
  refine ⟨by simp [Batch.push]; have := h.1; omega, ?_⟩
  rw [Batch.rest_push h.1]
  simp [Batch.push, h.2]

theorem Batch.wf_clear (b : Batch) : b.clear.Wf := Batch.wf_empty

theorem Batch.index_lt_of_rest {b : Batch} {e : List Nat} {r : List (List Nat)} (h : b.rest = e :: r) :
    b.index < b.bufs.length := by
  have := congrArg List.length h
  simp only [Batch.rest, List.length_drop, List.length_cons] at this
  omega

theorem Batch.rest_advance {b : Batch} {e : List Nat} {r : List (List Nat)} (h : b.rest = e :: r) :
    (b.advance e).rest = r := by
  have hlt := Batch.index_lt_of_rest h
  simp only [Batch.rest, Batch.advance] at h ⊢
  rw [List.drop_set_of_lt (by omega), ← List.tail_drop, h]
  rfl

theorem Batch.wf_advance {b : Batch} {e : List Nat} {r : List (List Nat)} (h : b.Wf) (hr : b.rest = e :: r) :
    (b.advance e).Wf := by
  have hlt := Batch.index_lt_of_rest hr
  refine ⟨by simp [Batch.advance]; omega, ?_⟩
  rw [Batch.rest_advance hr]
  have := h.2
  rw [hr] at this
  simp only [Batch.advance]
  simp at this
  omega

theorem Batch.rest_foldl_advance (pre : List (List Nat)) :
    ∀ {b : Batch} {r : List (List Nat)}, b.rest = pre ++ r → (pre.foldl Batch.advance b).rest = r := by
  induction pre with
  | nil => intro b r h; simpa using h
  | cons e pre ih =>
    intro b r h
    simp only [List.foldl_cons]
    exact ih (Batch.rest_advance (by simpa using h))

theorem Batch.wf_foldl_advance (pre : List (List Nat)) :
    ∀ {b : Batch} {r : List (List Nat)}, b.Wf → b.rest = pre ++ r → (pre.foldl Batch.advance b).Wf := by
  induction pre with
  | nil => intro b r h _; simpa using h
  | cons e pre ih =>
    intro b r h hr
    simp only [List.foldl_cons]
    have hr' : b.rest = e :: (pre ++ r) := by simpa using hr
    exact ih (Batch.wf_advance h hr') (Batch.rest_advance hr')

theorem Batch.remaining_foldl_advance (pre : List (List Nat)) :
    ∀ (b : Batch), (pre.foldl Batch.advance b).remaining = b.remaining - (pre.map List.length).sum := by
  induction pre with
  | nil => intro b; simp
  | cons e pre ih =>
    intro b
    simp only [List.foldl_cons, List.map_cons, List.sum_cons]
    rw [ih]
    simp only [Batch.advance]
    omega

theorem Batch.wf_foldl_push (evs : List (List Nat)) : ∀ {b : Batch}, b.Wf → (evs.foldl Batch.push b).Wf := by
  induction evs with
  | nil => intro b h; exact h
  | cons e es ih => intro b h; exact ih (Batch.wf_push h e)

theorem Batch.rest_foldl_push (evs : List (List Nat)) :
    ∀ {b : Batch}, b.index ≤ b.bufs.length → (evs.foldl Batch.push b).rest = b.rest ++ evs := by
  induction evs with
  | nil => intro b _; simp
  | cons e es ih =>
    intro b h
    simp only [List.foldl_cons]
    rw [ih (by simp [Batch.push]; omega), Batch.rest_push h]
    simp

theorem Batch.wf_ofEvents (evs : List (List Nat)) : (Batch.ofEvents evs).Wf :=
  Batch.wf_foldl_push evs Batch.wf_empty

theorem Batch.rest_ofEvents (evs : List (List Nat)) : (Batch.ofEvents evs).rest = evs := by
  have := Batch.rest_foldl_push evs (b := Batch.empty) (by simp [Batch.empty])
  simpa [Batch.ofEvents, Batch.rest, Batch.empty] using this

end EmitModel.FileSet
