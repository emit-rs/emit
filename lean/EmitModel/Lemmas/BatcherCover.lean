/-
  Lemmas/BatcherCover.lean — every accepted item is pending, in flight, finalised or truncated (while the receiver
  has not been torn down), and the obligation recorded for a flush watcher covers everything accepted before its
  registration that is not already through. Links C07 `flush_sound` to the wording of the property.
-/
import EmitModel.Lemmas.BatcherFlush

namespace EmitModel.Batcher
open EmitModel.Sched

attribute [local simp] Done

structure InvCover (s : St) : Prop where
  cover : ∀ x ∈ s.accepted, x ∈ s.pending ∨ x ∈ s.rx.inflight ∨ Done s x
  acc : ∀ w before, (w, before) ∈ s.acceptedAt → ∃ obs, (w, obs) ∈ s.obligations ∧ ∀ x ∈ before, x ∈ obs ∨ Done s x

/-- Items only move towards `Done`. -/
theorem InvCover.mono {s t : St} (h : InvCover s) (e1 : t.accepted = s.accepted) (e2 : t.acceptedAt = s.acceptedAt)
    (e3 : t.obligations = s.obligations)
    (hq : ∀ x, x ∈ s.pending ∨ x ∈ s.rx.inflight ∨ Done s x → x ∈ t.pending ∨ x ∈ t.rx.inflight ∨ Done t x)
    (hd : ∀ x, Done s x → Done t x) : InvCover t := by
  refine ⟨fun x hx => hq x (h.cover x (e1 ▸ hx)), fun w acc hm => ?_⟩
  obtain ⟨obs, ho, hc⟩ := h.acc w acc (e2 ▸ hm)
  exact ⟨obs, e3 ▸ ho, fun x hx => (hc x hx).imp_right (hd x)⟩

theorem InvCover.truncate {s : St} (h : InvCover s) : InvCover (truncate s) :=
  h.mono rfl rfl rfl (fun x hx => by simp at hx ⊢; rcases hx with hx | hx | hx | hx <;> simp [hx])
    (fun x hx => by simp at hx ⊢; rcases hx with hx | hx <;> simp [hx])

theorem InvCover.push {s : St} (h : InvCover s) (x : Nat) : InvCover (push s x) :=
  ⟨fun y hy => by
      rcases List.mem_append.mp hy with hy | hy
      · exact (h.cover y hy).imp_left (List.mem_append_left _)
      · exact .inl (List.mem_append_right _ hy),
    h.acc⟩

def InvC (s : St) : Prop := s.tornDown = false → InvCover s

theorem invC_step (cfg : Cfg) (s : St) (l : Label) (s' : St) (h : InvC s) (hs : step cfg s l = some s') :
    InvC s' := by
  intro ht
  cases Step.of_step hs with
  | dropReceiver => cases ht
  | sendTrunc s x => exact (h ht).truncate.push x
  | sendTruncClosed => exact (h ht).truncate
  | send s x | trySend s x => exact (h ht).push x
  | take => exact (h ht).mono rfl rfl rfl (by simp) fun _ hx => hx
  | conclude s o orig =>
    exact (h ht).mono rfl rfl rfl (fun x hx => by simp at hx ⊢; rcases hx with hx | hx | hx | hx <;> simp [hx])
      (fun x hx => by simp at hx ⊢; rcases hx with hx | hx <;> simp [hx])
  | whenFlushedNow s w | whenFlushedLater s w =>
    have h := h ht
    refine ⟨h.cover, fun w' acc hm => ?_⟩
    rcases List.mem_append.mp hm with hm | hm
    · obtain ⟨obs, ho, hx⟩ := h.acc w' acc hm
      exact ⟨obs, List.mem_append_left _ ho, hx⟩
    · cases List.mem_singleton.mp hm
      exact ⟨_, List.mem_append_right _ (.head _), fun x hx => by
        rcases h.cover x hx with a | a | a
        · exact .inl (List.mem_append_left _ a)
        · exact .inl (List.mem_append_right _ a)
        · exact .inr a⟩
  | fireFlush => exact ⟨by simpa using (h ht).cover, (h ht).acc⟩
  | _ => exact ⟨(h ht).cover, (h ht).acc⟩

theorem invC_reachable (cfg : Cfg) (s : St) (h : Reachable cfg s) : InvC s :=
  invariant_of_step (fun _ => ⟨nofun, nofun⟩) (invC_step cfg) s h

end EmitModel.Batcher
