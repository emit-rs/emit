/-
  Lemmas/FileSetAcked.lean — the successful and the failing path of the write loop, exactly: what was appended
  when `on_batch` returns Ok, what a failed write and the sync after it leave, and that events laid and synced
  stand whole in durable content.
-/
import EmitModel.Lemmas.FileSetWalk

namespace EmitModel.FileSet

section
variable {cfg : Config} {E : List Nat → Prop} {c : Nat}

theorem syncWritten_ne_ok (plan : Nat → Fault) (n : List Nat) (b b' : Batch) (s s' : St) :
    syncWritten plan n b b' s ≠ (.ok, s') := by
  unfold syncWritten
  split
  · cases hf : flushFile plan s with
    | err s3 => simp
    | crash s3 => simp
    | ok u s3 => simp only; cases hy : syncAll plan n s3 <;> simp
  · simp

theorem syncWritten_retry {plan : Nat → Fault} {n : List Nat} {b b' b'' : Batch} {s s' : St}
    (h : syncWritten plan n b b' s = (.retry b'', s')) :
    b'' = b' ∧ ((b'.remaining = b.remaining ∧ s' = s) ∨ (b'.remaining ≠ b.remaining ∧ s'.fs = syncFile s.fs n)) := by
  unfold syncWritten at h
  split at h
  · rename_i hne
    cases hf : flushFile plan s <;> simp only [hf] at h <;> try cases h
    cases flushFile_ok hf
    cases hy : syncAll plan n s.tick <;> simp only [hy] at h <;> cases h
    cases syncAll_ok hy
    exact ⟨rfl, .inr ⟨hne, rfl⟩⟩
  · rename_i heq
    cases h
    exact ⟨rfl, .inl ⟨by simpa using heq, rfl⟩⟩

theorem writeAll_err {plan : Nat → Fault} {n buf : List Nat} {s s' : St} (h : writeAll plan n buf s = .err s') :
    ∃ t, s'.fs = appendBytes s.fs n t := by
  unfold writeAll at h
  split at h
  · cases h
  · split at h
    · cases h
    · cases h; exact ⟨[], (appendBytes_nil _ _).symm⟩
    · cases h; exact ⟨_, rfl⟩
    · cases h

theorem writeEvent_err {plan : Nat → Fault} {a : Active} {e : List Nat} {s s' : St}
    (h : writeEvent cfg plan a e s = .err s') : ∃ t, s'.fs = appendBytes s.fs a.name t := by
  unfold writeEvent at h
  by_cases hnr : a.needsRecovery = true
  · simp only [hnr, if_true] at h
    cases h1 : writeAll plan a.name cfg.sep s with
    | err s1 => simp only [h1] at h; cases h; exact writeAll_err h1
    | crash s1 => simp only [h1] at h; cases h
    | ok u s1 =>
      simp only [h1] at h
      obtain ⟨k1, _⟩ := writeAll_ok h1
      cases h2 : writeAll plan a.name e s1 with
      | err s2 =>
        simp only [h2] at h; cases h
        obtain ⟨t, ht⟩ := writeAll_err h2
        exact ⟨cfg.sep ++ t, by rw [ht, k1, appendBytes_appendBytes]⟩
      | crash s2 => simp only [h2] at h; cases h
      | ok u2 s2 => simp only [h2] at h; cases h
  · simp only [hnr, Bool.false_eq_true, if_false] at h
    cases h2 : writeAll plan a.name e s with
    | err s2 => simp only [h2] at h; cases h; exact writeAll_err h2
    | crash s2 => simp only [h2] at h; cases h
    | ok u2 s2 => simp only [h2] at h; cases h

theorem occurs_laid (hwf : WfEvents E c) {t : Bool} (evs : List (List Nat)) :
    ∀ {x : List Nat} {nr : Bool}, Good E c t x → (nr = false → Clean E c t x) → (∀ e ∈ evs, E e) →
      ∀ e ∈ evs, Occurs c e (x ++ laid [c] nr evs) := by
  induction evs with
  | nil => intro x nr _ _ _ e he; cases he
  | cons e0 rest ih =>
    intro x nr hgood hclean hE e he
    have hclean' : Clean E c t (x ++ if nr then [c] else []) := by
      cases nr with
      | true => simpa using hgood.append_sep
      | false => simpa using hclean rfl
    have hnext : Clean E c t ((x ++ if nr then [c] else []) ++ e0) := .evt hclean' (hE e0 (by simp))
    have heq : x ++ laid [c] nr (e0 :: rest) = ((x ++ if nr then [c] else []) ++ e0) ++ laid [c] false rest := by
      simp [laid]
    rw [heq]
    rcases List.mem_cons.mp he with rfl | hr
    · -- `e` starts where the clean content ends, on a record boundary
      exact Occurs.append ⟨_, [], by simp, hclean'.boundary hwf⟩ _
    · exact ih hnext.good (fun _ => hnext) (fun x hx => hE x (by simp [hx])) e hr

/-- `x`: what was written before the sync, the laid events and whatever a failed write put after them. -/
theorem laid_synced (hwf : WfEvents E c) {plan : Nat → Fault} {now : Parts} {id : Nat} {b : Batch} {s s1 : St}
    {a : Active} (hinv : Inv cfg E c s) (hacq : acquire cfg plan now id b s = .ok a s1) (evs : List (List Nat))
    (hE : ∀ e ∈ evs, E e) {x : List Nat} (hx : laid [c] a.needsRecovery evs <+: x) :
    Mem cfg a.name ∧ ∃ f, fsGet (syncFile (appendBytes s1.fs a.name x) a.name) a.name = some f ∧ f.durable = true ∧
      f.unsynced = [] ∧ ∀ e ∈ evs, Occurs c e f.synced := by
  obtain ⟨_, hgood1, hok⟩ := acquire_inv hinv hacq
  obtain ⟨hm, ⟨f1, hget1, hd1, _⟩, hclean1⟩ := hok a rfl
  obtain ⟨t, rfl⟩ := hx
  refine ⟨hm, File.syncedAll { f1 with unsynced := f1.unsynced ++ (laid [c] a.needsRecovery evs ++ t) }, ?_, hd1, rfl,
    fun e he => ?_⟩
  · rw [fsGet_syncFile_same, fsGet_appendBytes_same _ hget1]
    rfl
  · have := (occurs_laid hwf evs (hgood1 a.name f1 hget1 hm) (fun hnr => hclean1 hnr f1 hget1) hE e he).append t
    simpa [File.syncedAll, File.content, List.append_assoc] using this

theorem onBatch_ok {plan : Nat → Fault} {now : Parts} {id : Nat} {b : Batch} {s s' : St}
    (h : onBatch cfg plan now id b s = (.ok, s')) :
    ∃ a s1 a', acquire cfg plan now id b s = .ok a s1 ∧ a'.name = a.name ∧ s'.active = some a' ∧
      s'.fs = syncFile (appendBytes s1.fs a.name (laid cfg.sep a.needsRecovery b.rest)) a.name := by
  unfold onBatch at h
  cases hacq : acquire cfg plan now id b s <;> simp only [hacq] at h <;> try cases h
  rename_i a s1
  rcases writeEvents_cases b.rest a b s1 with ⟨a', s2, hw⟩ | ⟨_, _, _, _, _, s2, _, _, _, hw⟩ | ⟨s2, hw⟩ <;>
    rw [hw] at h <;> simp only at h
  · obtain ⟨w2, w5⟩ := writeEvents_ok b.rest hw
    cases hf : flushFile plan s2 <;> simp only [hf] at h <;> try cases h
    cases flushFile_ok hf
    cases hy : syncAll plan a'.name s2.tick <;> simp only [hy] at h <;> cases h
    cases syncAll_ok hy
    exact ⟨a, s1, a', rfl, w5, rfl, by simp only [St.tick, w2, w5]⟩
  · exact absurd h (syncWritten_ne_ok plan a.name b _ s2 s')
  · cases h

end

end EmitModel.FileSet
