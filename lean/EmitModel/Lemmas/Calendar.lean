/-
  Lemmas/Calendar.lean — C15. The calendar arithmetic of Model/Timestamp.lean, around one notion: `yearStart Z`, the
  day number (from 2000-03-01) of March 1 of the year `2000 + Z`. `to_parts` finds the `Z` with
  `yearStart Z ≤ d < yearStart (Z + 1)`; `start_of_year` of `from_parts` is `yearStart` moved to January 1.
-/
import EmitModel.Model.Timestamp

namespace EmitModel.Timestamp
open EmitModel.Text

/-- Rust's truncating `/`, `%` followed by the code's `if rem < 0` fix-up is Euclidean division -/
theorem fixup (a b : Int) (hb : 0 < b) :
    (if a.tmod b < 0 then a.tdiv b - 1 else a.tdiv b) = a / b ∧
    (if a.tmod b < 0 then a.tmod b + b else a.tmod b) = a % b := by
  have h1 := Int.emod_nonneg a (Int.ne_of_gt hb)
  have h2 := Int.emod_lt_of_pos a hb
  rw [Int.tdiv_eq_ediv, Int.tmod_eq_emod]
  simp only [Int.dvd_iff_emod_eq_zero, Int.sign_eq_one_of_pos hb]
  have : (b.natAbs : Int) = b := by omega
  -- `Int.tdiv_eq_ediv`, `Int.tmod_eq_emod` correct by `sign b`, `natAbs b` unless `0 ≤ a` or the division is exact
  by_cases h : 0 ≤ a ∨ a % b = 0
  · simp only [h, ↓reduceIte]; split <;> omega
  · simp only [h, ↓reduceIte, this]; split <;> omega

/-- One level of the era decomposition of `to_parts`: divide by the block length `n`, but never go past block `k - 1`
    (the last block of each level is one day longer, so `r = k * n` is possible). -/
theorem cap_step (r n k : Int) (hn : 0 < n) (hk : 0 < k) (h0 : 0 ≤ r) (hr : r ≤ k * n) :
    ∃ c r', (if r.tdiv n = k then r.tdiv n - 1 else r.tdiv n) = c ∧ r - c * n = r' ∧
      0 ≤ c ∧ c < k ∧ 0 ≤ r' ∧ r' ≤ n ∧ (r' = n → c = k - 1 ∧ r = k * n) := by
  refine ⟨_, _, rfl, rfl, ?_⟩
  rw [Int.tdiv_eq_ediv_of_nonneg h0]
  have h1 := Int.emod_nonneg r (Int.ne_of_gt hn)
  have h2 := Int.emod_lt_of_pos r hn
  have h3 : r / n * n + r % n = r := Int.ediv_mul_add_emod r n
  have h4 : 0 ≤ r / n := Int.ediv_nonneg h0 (Int.le_of_lt hn)
  split
  · rename_i hq
    rw [hq] at h3 ⊢
    rw [Int.sub_mul, Int.one_mul]
    omega
  · have : r / n ≤ k := by
      have : r / n ≤ k * n / n := Int.ediv_le_ediv hn hr
      rwa [Int.mul_ediv_cancel _ (Int.ne_of_gt hn)] at this
    omega

def yearStart (Z : Int) : Int := 365 * Z + Z / 4 - Z / 100 + Z / 400

def leapZ (Z : Int) : Bool := decide (Z % 4 = 0 ∧ (Z % 100 ≠ 0 ∨ Z % 400 = 0))

/-- the March-based year `Z` ends with the February of `Z + 1` -/
theorem yearStart_succ (Z : Int) :
    yearStart (Z + 1) = yearStart Z + 365 + (if leapZ (Z + 1) then 1 else 0) := by
  unfold yearStart leapZ
  split <;> rename_i h <;> simp only [decide_eq_true_eq] at h <;> omega

theorem yearStart_succ_le {Z Z' : Int} (h : Z < Z') : yearStart (Z + 1) ≤ yearStart Z' := by
  unfold yearStart
  omega

theorem yearStart_digits (qc c q y : Int) (c0 : 0 ≤ c) (c3 : c < 4) (q0 : 0 ≤ q) (q24 : q < 25) (y0 : 0 ≤ y)
    (y3 : y < 4) :
    yearStart (y + 4 * q + 100 * c + 400 * qc) = 146097 * qc + 36524 * c + 1461 * q + 365 * y := by
  unfold yearStart
  omega

theorem leap_after (qc c q : Int) (q0 : 0 ≤ q) (q24 : q < 25) (h : q = 24 → c = 3) :
    leapZ (3 + 4 * q + 100 * c + 400 * qc + 1) = true := by
  simp only [leapZ, decide_eq_true_eq]
  omega

/-- day `n` of the March-based year as (months since March, day of that month from 0); the thresholds are the cumulative
    lengths of March, April, … -/
def monthOfDoy (n : Nat) : Nat × Nat :=
  if n < 31 then (0, n) else if n < 61 then (1, n - 31) else if n < 92 then (2, n - 61)
  else if n < 122 then (3, n - 92) else if n < 153 then (4, n - 122) else if n < 184 then (5, n - 153)
  else if n < 214 then (6, n - 184) else if n < 245 then (7, n - 214) else if n < 275 then (8, n - 245)
  else if n < 306 then (9, n - 275) else if n < 337 then (10, n - 306) else (11, n - 337)

theorem monthLoop_eq : ∀ n : Nat, n < 366 →
    monthLoop DAYS_IN_MONTH 0 ((n : Nat) : Int) = .ok ((monthOfDoy n).1, (((monthOfDoy n).2 : Nat) : Int)) := by
  decide +kernel

/-- against the January-based table of `from_parts`: March–December (`n < 306`) lie 59 days into the civil year,
    January and February (months 10, 11 from March) start on day 306 of the March-based one -/
theorem month_facts : ∀ n : Nat, n < 366 →
    ((monthOfDoy n).1 < 10 ∧ CUM_DAYS[((monthOfDoy n).1 + 3 - 1) % 12]! + (monthOfDoy n).2 = n + 59 ∧
        (monthOfDoy n).2 ≤ 30 ∧ n < 306) ∨
    (10 ≤ (monthOfDoy n).1 ∧ (monthOfDoy n).1 ≤ 11 ∧
        CUM_DAYS[((monthOfDoy n).1 - 9 - 1) % 12]! + (monthOfDoy n).2 + 306 = n ∧ (monthOfDoy n).2 ≤ 30) := by
  decide +kernel

theorem monthOfDoy_le (n : Nat) (h : n < 366) : (monthOfDoy n).1 ≤ 11 ∧ (monthOfDoy n).2 ≤ 30 := by
  rcases month_facts n h with ⟨h1, _, h3, _⟩ | ⟨_, h2, _, h4⟩ <;> omega

theorem dateOfDays_eq (d : Int) :
    ∃ (Z : Int) (r : Nat), yearStart Z + r = d ∧ d < yearStart (Z + 1) ∧ r < 366 ∧
      dateOfDays d =
        if ((monthOfDoy r).1 : Int) ≥ 10 then .ok (Z + 1, ((monthOfDoy r).1 : Int) - 12, ((monthOfDoy r).2 : Int))
        else .ok (Z, ((monthOfDoy r).1 : Int), ((monthOfDoy r).2 : Int)) := by
  have f := fixup d 146097 (by decide)
  have hr0 := Int.emod_nonneg d (by decide : (146097 : Int) ≠ 0)
  have hr0' := Int.emod_lt_of_pos d (by decide : (0 : Int) < 146097)
  have hd := Int.mul_ediv_add_emod d 146097
  unfold dateOfDays
  simp only [f.1, f.2]
  clear f
  generalize d / 146097 = qc at *
  generalize d % 146097 = r0 at *
  -- three capped divisions: quotients and remainders become variables with linear facts
  obtain ⟨c, r1, hc, hr1, c0, c3, h1, h1', e1⟩ := cap_step r0 36524 4 (by decide) (by decide) hr0 (by omega)
  obtain ⟨q, r2, hq, hr2, q0, q24, h2, h2', e2⟩ := cap_step r1 1461 25 (by decide) (by decide) h1 (by omega)
  obtain ⟨y, r3, hy, hr3, y0, y3, h3, h3', e3⟩ := cap_step r2 365 4 (by decide) (by decide) h2 (by omega)
  simp only [hc, hr1, hq, hr2, hy, hr3]
  obtain ⟨n, rfl⟩ := Int.eq_ofNat_of_zero_le h3
  rw [monthLoop_eq n (by omega)]
  have hZ := yearStart_digits qc c q y c0 c3 q0 q24 y0 y3
  refine ⟨y + 4 * q + 100 * c + 400 * qc, n, by omega, ?_, by omega, rfl⟩
  rw [yearStart_succ, hZ]
  -- day 365 exists only where all three divisions were capped as far as they can be: before a leap February
  by_cases hn : (n : Int) = 365
  · have : y = 3 := by omega
    subst this
    rw [leap_after qc c q q0 q24 (by omega), if_pos rfl]
    omega
  · split <;> omega

/-- the comparison ladder of `start_of_year` (timestamp.rs:201, `if rem >= 200 { if rem >= 300 …`) divides by 100 -/
theorem centuries_eq (rem : Int) (h0 : 0 ≤ rem) (h4 : rem < 400) :
    (if rem ≥ 200 then (if rem ≥ 300 then ((3 : Int), rem - 300) else (2, rem - 200))
      else if rem ≥ 100 then (1, rem - 100) else (0, rem)) = (rem / 100, rem % 100) := by
  repeat' split
  all_goals (refine Prod.ext ?_ ?_ <;> simp only <;> omega)

/-- `start_of_year` is January 1: `yearStart` less the 59 (60) days of January and February, counted from the epoch
    (2000-03-01 is day 11017). `-30 ≤ Z`: from 1970 on. -/
theorem startOfYear_spec (years : Nat) (Z : Int) (hY : (years : Int) = 2000 + Z) (hlo : -30 ≤ Z) :
    startOfYear years = (leapZ Z, 86400 * (yearStart Z + 10958 - (if leapZ Z then 1 else 0))) := by
  unfold startOfYear
  have hyear : (years : Int) - 1900 = Z + 100 := by omega
  simp only [hyear]
  by_cases hfast : 0 ≤ Z + 100 ∧ Z + 100 ≤ 138
  · simp only [hfast, and_self, ↓reduceIte]
    -- between 1970 and 2038 only 2000 is a century year, and it is leap
    have hl : leapZ Z = decide ((Z + 100 - 68) % 4 = 0) := by
      unfold leapZ; congr 1; apply propext; omega
    rw [hl]
    unfold yearStart
    split <;> rename_i h <;> simp only [h, decide_true, decide_false, ↓reduceIte, Bool.false_eq_true] <;>
      congr 1 <;> omega
  · have hZ : 0 ≤ Z := by omega
    have h0 := Int.emod_nonneg Z (by decide : (400 : Int) ≠ 0)
    have h4 := Int.emod_lt_of_pos Z (by decide : (0 : Int) < 400)
    have hnn : ¬ Z % 400 < 0 := by omega
    have hr := Int.emod_nonneg (Z % 400) (by decide : (100 : Int) ≠ 0)
    simp only [hfast, ↓reduceIte, Int.add_sub_cancel, Int.tdiv_eq_ediv_of_nonneg hZ, Int.tmod_eq_emod_of_nonneg hZ,
      hnn, centuries_eq _ h0 h4, Int.tdiv_eq_ediv_of_nonneg hr, Int.tmod_eq_emod_of_nonneg hr]
    -- the three branches of the code are one formula
    have ht : (if Z % 400 = 0 then (true, (0 : Int), (0 : Int))
        else if Z % 400 % 100 = 0 then (false, Z % 400 / 100, 0)
        else (decide (Z % 400 % 100 % 4 = 0), Z % 400 / 100, Z % 400 % 100 / 4)) =
        (leapZ Z, Z % 400 / 100, Z % 400 % 100 / 4) := by
      unfold leapZ
      repeat' split
      all_goals (refine Prod.ext ?_ (Prod.ext ?_ ?_) <;>
        simp only [decide_eq_decide, Bool.true_eq, Bool.false_eq, decide_eq_true_eq, decide_eq_false_iff_not] <;> omega)
    rw [ht]
    unfold yearStart
    dsimp only
    congr 1
    omega

/-- `hsecs` is the code's own sum: start of the year, cumulative month table with the leap day after February, days,
    h:m:s -/
theorem fromParts_eq (p : Parts) (Z : Int) (hY : (p.years : Int) = 2000 + Z) (hlo : -30 ≤ Z)
    (hm : 1 ≤ p.months) (hd : 1 ≤ p.days) (hn : p.nanos < NANOS) (secs : Nat)
    (hsecs : (secs : Int) = 86400 * (yearStart Z + 10958 - (if leapZ Z = true then 1 else 0))
        + ((if leapZ Z = true ∧ p.months > 2 then
              86400 * CUM_DAYS[(p.months - 1) % 12]! +
                (86400 * (p.days - 1) + 3600 * p.hours + 60 * p.minutes + p.seconds) + 86400
            else
              86400 * CUM_DAYS[(p.months - 1) % 12]! +
                (86400 * (p.days - 1) + 3600 * p.hours + 60 * p.minutes + p.seconds) : Nat) : Int))
    (hmax : secs ≤ MAX_SECS) :
    fromParts p = .ok (some (secs * NANOS + p.nanos)) := by
  unfold fromParts
  rw [startOfYear_spec p.years Z hY hlo]
  have hd' : ¬ p.days = 0 := by omega
  have hm' : ¬ p.months = 0 := by omega
  simp only [hd', hm', ↓reduceIte]
  rw [← hsecs]
  have h1 : ¬ ((secs : Int) < 0) := by omega
  have h2 : p.nanos / NANOS = 0 := Nat.div_eq_of_lt hn
  have h3 : p.nanos % NANOS = p.nanos := Nat.mod_eq_of_lt hn
  simp only [h1, ↓reduceIte, Int.toNat_natCast, h2, h3, Nat.add_zero, hmax]

structure InRange (p : Parts) : Prop where
  y : 1970 ≤ p.years ∧ p.years ≤ 9999
  mo : 1 ≤ p.months ∧ p.months ≤ 12
  d : 1 ≤ p.days ∧ p.days ≤ 31
  h : p.hours ≤ 23
  mi : p.minutes ≤ 59
  s : p.seconds ≤ 59
  n : p.nanos ≤ 999999999

def partsOf (Z : Int) (r rs ns : Nat) : Parts where
  years := (if 10 ≤ (monthOfDoy r).1 then Z + 2001 else Z + 2000).toNat
  months := if 10 ≤ (monthOfDoy r).1 then (monthOfDoy r).1 - 9 else (monthOfDoy r).1 + 3
  days := (monthOfDoy r).2 + 1
  hours := rs / 3600
  minutes := rs / 60 % 60
  seconds := rs % 60
  nanos := ns

theorem toPartsO_eq (t : Nat) :
    ∃ (Z : Int) (r : Nat), yearStart Z + r = ((t / NANOS / 86400 : Nat) : Int) - 11017 ∧
      ((t / NANOS / 86400 : Nat) : Int) - 11017 < yearStart (Z + 1) ∧ r < 366 ∧
      toPartsO t = .ok (partsOf Z r (t / NANOS % 86400) (t % NANOS)) := by
  obtain ⟨Z, r, h1, h2, h3, hd⟩ := dateOfDays_eq (((t / NANOS / 86400 : Nat) : Int) - 11017)
  refine ⟨Z, r, h1, h2, h3, ?_⟩
  have hrs : ¬ (((t / NANOS % 86400 : Nat) : Int) < 0) := by omega
  have h0 : (0 : Int) ≤ ((t / NANOS % 86400 : Nat) : Int) := by omega
  have h60 : (0 : Int) ≤ ((t / NANOS % 86400 : Nat) : Int) / 60 := by omega
  unfold toPartsO partsOf
  simp only [hrs, ↓reduceIte, hd, Int.tdiv_eq_ediv_of_nonneg h0, Int.tmod_eq_emod_of_nonneg h0,
    Int.tmod_eq_emod_of_nonneg h60]
  generalize t / NANOS % 86400 = rs
  by_cases hm : 10 ≤ (monthOfDoy r).1
  · have hm' : ((monthOfDoy r).1 : Int) ≥ 10 := by omega
    simp only [hm, hm', ↓reduceIte, Outcome.ok.injEq, Parts.mk.injEq, and_true]
    omega
  · have hm' : ¬ ((monthOfDoy r).1 : Int) ≥ 10 := by omega
    simp only [hm, hm', ↓reduceIte, Outcome.ok.injEq, Parts.mk.injEq, true_and, and_true]
    omega

/-- 2932896 = `MAX_SECS / 86400`, the last day; the March-based years run from 1969-03-01 to 9999-03-01 -/
theorem year_bounds (Z : Int) (r : Nat) (d : Nat) (h1 : yearStart Z + r = (d : Int) - 11017)
    (h2 : (d : Int) - 11017 < yearStart (Z + 1)) (hd : d ≤ 2932896) :
    -31 ≤ Z ∧ Z ≤ 7999 ∧ (Z = -31 → 306 ≤ r) ∧ (Z = 7999 → r ≤ 305) := by
  unfold yearStart at h1 h2
  omega

theorem year_ge (Z : Int) (d : Nat) (h : (d : Int) - 11017 < yearStart (Z + 1)) : -31 ≤ Z := by
  unfold yearStart at h
  omega

theorem secs_le (t : Nat) (ht : t ≤ MAX_NS) : t / NANOS ≤ MAX_SECS := by
  have ht' : t ≤ 253402300799 * 1000000000 + 999999999 := ht
  show t / 1000000000 ≤ 253402300799
  omega

/-- `from_parts` inverts `to_parts` whatever sub-second part replaces the instant's own (the truncated one in
    `ts_roundtrip`, one parsed from a text in `ts_accepts_calendar_valid`) -/
theorem toParts_fromParts (t : Nat) (ht : t ≤ MAX_NS) :
    ∃ p, toPartsO t = .ok p ∧ InRange p ∧ p.nanos = t % NANOS ∧
      ∀ ns, ns < NANOS → fromParts { p with nanos := ns } = .ok (some (t / NANOS * NANOS + ns)) := by
  obtain ⟨Z, r, h1, h2, hr, hp⟩ := toPartsO_eq t
  suffices h : InRange (partsOf Z r (t / NANOS % 86400) (t % NANOS)) ∧
      ∀ ns, ns < NANOS → fromParts (partsOf Z r (t / NANOS % 86400) ns) = .ok (some (t / NANOS * NANOS + ns)) from
    ⟨_, hp, h.1, rfl, h.2⟩
  have hn : t % NANOS < 1000000000 := Nat.mod_lt _ (by decide)
  have hs : t / NANOS ≤ 253402300799 := secs_le t ht
  have hsplit := Nat.div_add_mod (t / NANOS) 86400
  have hrl : t / NANOS % 86400 < 86400 := Nat.mod_lt _ (by decide)
  obtain ⟨hlo, hhi, hlo', hhi'⟩ := year_bounds Z r (t / NANOS / 86400) h1 h2 (by omega)
  have hmf := month_facts r hr
  unfold partsOf
  generalize t / NANOS % 86400 = rs at *
  generalize t / NANOS / 86400 = dn at *
  generalize (monthOfDoy r).1 = mi at *
  generalize (monthOfDoy r).2 = md at *
  rcases hmf with ⟨hlt, hcum, hd30, hn306⟩ | ⟨hge, hle, hcum, hd30⟩
  · have hb : ¬ (10 ≤ mi) := by omega
    simp only [hb, ↓reduceIte]
    refine ⟨by constructor <;> simp only <;> omega, fun ns hns => ?_⟩
    refine fromParts_eq _ Z ?_ ?_ ?_ ?_ hns _ ?_ hs
    · simp only; omega
    · omega
    · simp only; omega
    · simp only; omega
    simp only [Nat.add_sub_cancel]
    have hgt : mi + 3 > 2 := by omega
    by_cases hl : leapZ Z = true <;> simp only [hl, hgt, and_self, Bool.false_eq_true, false_and, ↓reduceIte] <;> omega
  · simp only [hge, ↓reduceIte]
    refine ⟨by constructor <;> simp only <;> omega, fun ns hns => ?_⟩
    refine fromParts_eq _ (Z + 1) ?_ ?_ ?_ ?_ hns _ ?_ hs
    · simp only; omega
    · omega
    · simp only; omega
    · simp only; omega
    simp only [Nat.add_sub_cancel]
    have hng : ¬ (mi - 9 > 2) := by omega
    have hy := yearStart_succ Z
    simp only [hng, and_false, ↓reduceIte]
    split at hy <;> rename_i hl <;> simp only [hl, ↓reduceIte, Bool.false_eq_true] <;> omega

end EmitModel.Timestamp
