/-
  Lemmas/Traceparent.lean — C18, Model/Traceparent.lean. `openSpec` is the outcome of `SpanGuard::new` written out; the
  runtime computes it while fresh ids do not collide (`Below`, `openSpan_eq_spec`). Every program puts the thread's
  traceparent back and the id counter only grows, so fresh ids stay fresh.
-/
import EmitModel.Model.Traceparent

namespace EmitModel.Traceparent

def validOf (st : Option Active) : Bool := (st.filter (fun a => a.tp.valid)).isSome

theorem validOf_some (a : Active) : validOf (some a) = a.tp.valid := by
  simp only [validOf, Option.filter]; split <;> simp_all

theorem validOf_none : validOf none = false := rfl

theorem validOf_eq_false {st : Option Active} :
    validOf st = false ↔ st.filter (fun a => a.tp.valid) = none := by
  unfold validOf
  cases st.filter _ <;> simp

/-- No rng-drawn span id visible in the active traceparent is ahead of the counter. -/
def Below (st : Option Active) (n : Nat) : Prop :=
  ∀ a k, st = some a → a.tp.spanId = some (.gen k) → k ≤ n

theorem below_gen {a : Active} {n : Nat} (h : a.tp.spanId = some (.gen n)) : Below (some a) n := by
  intro a' k h1 h2
  cases h1
  rw [h] at h2
  cases h2
  exact Nat.le_refl _

theorem below_ext {a : Active} (h : ∀ k, a.tp.spanId ≠ some (.gen k)) (n : Nat) : Below (some a) n := by
  intro a' k h1 h2
  cases h1
  exact absurd h2 (h k)

@[simp] theorem completeSpan_st (b : Bool) (e : Env) : (completeSpan b e).st = e.st := by
  unfold completeSpan; split <;> rfl
@[simp] theorem completeSpan_calls (b : Bool) (e : Env) : (completeSpan b e).calls = e.calls := by
  unfold completeSpan; split <;> rfl
@[simp] theorem completeSpan_rng (b : Bool) (e : Env) : (completeSpan b e).rng = e.rng := by
  unfold completeSpan; split <;> rfl

theorem mem_completeSpan {o : Obs} {b : Bool} {e : Env} (h : o ∈ (completeSpan b e).out) :
    (b = true ∧ o = .spanDone (ambientIds e.st)) ∨ o ∈ e.out := by
  unfold completeSpan at h
  split at h
  · exact (List.mem_cons.1 h).imp_left (And.intro ‹_›)
  · exact Or.inr h

/-- The explicit outcome of `SpanGuard::new` under the traceparent runtime when fresh ids do not collide. -/
def openSpec (c : Cfg) (e : Env) : Bool × Ids × Option Active × Env :=
  let cur := ambientIds e.st
  let rng1 := if cur.traceId.isSome then e.rng else e.rng + 1
  let traceId : Option Id := if cur.traceId.isSome then cur.traceId else some (.gen (e.rng + 1))
  let sid : Id := .gen (rng1 + 1)
  let child : Ids := ⟨traceId, cur.spanId, some sid⟩
  let seen : Ids := ⟨traceId, cur.spanId.or cur.spanParent, some sid⟩
  match e.st.filter (fun a => a.tp.valid) with
  | some a =>
    let en := a.tp.sampled
    (en, child, some ⟨⟨a.tp.traceId, some sid, if en then a.tp.flags % 256 else 0⟩, a.tp.spanId, a.state⟩,
      { e with rng := rng1 + 1, out := .spanOpen en seen :: e.out })
  | none =>
    if c.hasSampler then
      let d := c.decide e.calls
      (d, child, some ⟨⟨traceId, some sid, if d then 1 else 0⟩, none, 0⟩,
        { e with rng := rng1 + 1, calls := e.calls + 1, out := .spanOpen d seen :: .sampler traceId sid d :: e.out })
    else
      -- no sampler configured: every new trace is sampled
      (true, child, some ⟨⟨traceId, some sid, 1⟩, none, 0⟩,
        { e with rng := rng1 + 1, out := .spanOpen true seen :: e.out })

/-- `SpanGuard::new` is `openSpec`. `Below` is what keeps `incoming` off its collision branch: the id just drawn is
    not the active span id. -/
theorem openSpan_eq_spec (c : Cfg) (e : Env) (hb : Below e.st e.rng) : openSpan c e = openSpec c e := by
  unfold openSpan openSpec incoming
  cases hf : e.st.filter (fun a => a.tp.valid) with
  | none =>
    generalize ambientIds e.st = cur
    cases ht : cur.traceId <;> simp [ht, maskIsSampled, applyMask] <;>
      cases c.hasSampler <;> cases c.decide e.calls <;> simp [TP.sampled]
  | some a =>
    obtain ⟨hst, hv⟩ := Option.filter_eq_some_iff.1 hf
    have hne : ∀ k, e.rng < k → a.tp.spanId ≠ some (Id.gen k) := fun k hk h => by have := hb a k hst h; omega
    by_cases hs : a.tp.sampled = true
    · have hs' : a.tp.flags % 2 = 1 := by simpa [TP.sampled] using hs
      cases ht : a.tp.traceId with
      | none => simp [TP.valid, ht] at hv
      | some t =>
        simp [hst, ambientIds, ht, hne (e.rng + 1) (by omega), applyMask, TP.sampled, hs']
    · have hs' : a.tp.flags % 2 = 0 := by
        have : ¬ (a.tp.flags % 2 = 1) := by simpa [TP.sampled] using hs
        omega
      simp [hst, ambientIds, Ids.empty, hne (e.rng + 1 + 1) (by omega), applyMask, TP.sampled, hs']

@[simp] theorem openSpan_st (c : Cfg) (e : Env) : (openSpan c e).2.2.2.st = e.st := by
  simp [openSpan]

/-- `InSampledTraceFilter::matches`: the active traceparent's flag, or the configured answer outside traces. -/
def passInSampled (c : Cfg) (st : Option Active) : Bool :=
  match st with
  | some a => a.tp.sampled
  | none => c.outside

/-- The log of a manual span from the log of a guard opened at the same point: the same sampler observation
    underneath, the `spanOpen enabled seen` on top replaced by `spanEvent seen enabled passIn`. -/
def asSpanEvent (passIn : Bool) : List Obs → List Obs
  | .spanOpen en seen :: rest => .spanEvent seen en passIn :: rest
  | o => o

/-- **A manual span is filtered exactly like the start of a guard.** Emitting a span as an event draws the same
    ids, consults the sampler under the same condition and gets the same `TraceparentFilter` verdict as
    `SpanGuard::new` at the same point (`openSpan`); only no frame comes out of it. -/
theorem emitSpanEvent_eq_open (c : Cfg) (e : Env) :
    emitSpanEvent c e =
      { (openSpan c e).2.2.2 with out := asSpanEvent (passInSampled c e.st) (openSpan c e).2.2.2.out } :=
  rfl

@[simp] theorem emitSpanEvent_st (c : Cfg) (e : Env) : (emitSpanEvent c e).st = e.st := by
  simp [emitSpanEvent]

/-- **restore**: every program leaves the thread's active traceparent as it found it — proved
    together with the fact that polling a frame-wrapped future segment by segment (enter/exit around every
    poll) threads the environment exactly like running the segments inside one entered frame. -/
theorem restore (c : Cfg) : ∀ (p : Prog) (e : Env), (run c p e).st = e.st
  | .event, e => by simp [run, observeEvent]
  | .spanEvent, e | .spanThread _, e | .push _ _, e | .pushState _ _, e | .pushBoth _ _ _, e | .carry _, e => by
    simp [run]
  | .span cs, e => by
    simp only [run]
    cases hs : (openSpan c e).2.2.1 with
    | none => simp [exitSt, enterSt, restoreList c cs]
    | some a => simp [exitSt]
  | .spanAsync cs, e => by
    simp only [run]
    cases hs : (openSpan c e).2.2.1 with
    | none =>
      have := polls_inactive c cs none (openSpan c e).2.2.2
      simp [this, Frm.swap, restoreList c cs]
    | some a =>
      have := polls_active c cs a (openSpan c e).2.2.2
      simp [this, Frm.swap]
  where
  restoreList (c : Cfg) : ∀ (ps : List Prog) (e : Env), (runList c ps e).st = e.st
  | [], e => rfl
  | p :: ps, e => by simp only [runList]; rw [restoreList c ps, restore c p]
  polls_inactive (c : Cfg) : ∀ (ps : List Prog) (sl : Option Active) (e : Env),
      runPolls c ps ⟨false, sl⟩ e = (⟨false, sl⟩, runList c ps e)
  | [], sl, e => rfl
  | p :: ps, sl, e => by
    simp only [runPolls, runList, Frm.swap, Bool.false_eq_true, if_false]
    rw [polls_inactive c ps sl]
  polls_active (c : Cfg) : ∀ (ps : List Prog) (a : Active) (e : Env),
      runPolls c ps ⟨true, some a⟩ e = (⟨true, some a⟩, { runList c ps { e with st := some a } with st := e.st })
  | [], a, e => by simp [runPolls, runList]
  | p :: ps, a, e => by
    simp only [runPolls, runList, Frm.swap, if_true]
    have h1 : (run c p { e with st := some a }).st = some a := restore c p _
    -- taken apart so that `{ e1 with st := … }` computes
    generalize hr : run c p { e with st := some a } = e1 at h1 ⊢
    obtain ⟨st1, rng1, calls1, out1⟩ := e1
    simp only at h1
    subst h1
    rw [polls_active c ps a]

/-- **Polling is transparent.** A span whose body is a future polled segment by segment — the frame entered
    and exited around every poll, the slot swapped each time — behaves exactly like the span whose body runs
    inside one entered frame. -/
theorem run_spanAsync_eq (c : Cfg) (cs : List Prog) (e : Env) : run c (.spanAsync cs) e = run c (.span cs) e := by
  have hst := openSpan_st c e
  simp only [run]
  rcases hO : openSpan c e with ⟨en, ch, sl, ⟨st1, rng1, calls1, out1⟩⟩
  rw [hO] at hst
  simp only at hst
  subst hst
  cases sl with
  | none =>
    simp only [Option.isSome_none, restore.polls_inactive, Frm.swap, Bool.false_eq_true, if_false, enterSt, exitSt]
  | some a =>
    simp only [Option.isSome_some, restore.polls_active, Frm.swap, if_true, enterSt, exitSt]
    have h := restore.restoreList c cs { st := some a, rng := rng1, calls := calls1, out := out1 }
    generalize runList c cs { st := some a, rng := rng1, calls := calls1, out := out1 } = r at h ⊢
    obtain ⟨rst, rrng, rcalls, rout⟩ := r
    simp only at h
    subst h
    simp [completeSpan]

theorem openSpan_rng (c : Cfg) (e : Env) : e.rng ≤ (openSpan c e).2.2.2.rng := by
  simp only [openSpan]
  split <;> omega

theorem rng_mono (c : Cfg) : ∀ (p : Prog) (e : Env), e.rng ≤ (run c p e).rng
  | .event, e => by simp [run, observeEvent]
  | .spanEvent, e => by simp only [run, emitSpanEvent_eq_open]; exact openSpan_rng c e
  | .span cs, e | .spanThread cs, e => by
    simp only [run, completeSpan_rng]; exact Nat.le_trans (openSpan_rng c e) (rng_list c cs _ _ _ _)
  | .spanAsync cs, e => by
    rw [run_spanAsync_eq]
    simp only [run, completeSpan_rng]; exact Nat.le_trans (openSpan_rng c e) (rng_list c cs _ _ _ _)
  | .push _ cs, e | .pushState _ cs, e | .pushBoth _ _ cs, e | .carry cs, e => by
    simp only [run]; exact rng_list c cs _ _ _ _
  where rng_list (c : Cfg) : ∀ (ps : List Prog) (st : Option Active) (rng calls : Nat) (out : List Obs),
      rng ≤ (runList c ps ⟨st, rng, calls, out⟩).rng
  | [], _, _, _, _ => Nat.le_refl _
  | p :: ps, st, rng, calls, out =>
    Nat.le_trans (rng_mono c p ⟨st, rng, calls, out⟩) (rng_list c ps _ _ _ _)

theorem below_run (c : Cfg) (p : Prog) (e : Env) (hb : Below e.st e.rng) : Below (run c p e).st (run c p e).rng := by
  intro a k h1 h2
  rw [restore c p e] at h1
  exact Nat.le_trans (hb a k h1 h2) (rng_mono c p e)

end EmitModel.Traceparent

/-! What `openSpec` returns. These lemmas serve the statements of Thm/C18.lean and carry its namespace; they stand here,
    with `openSpec`. -/
namespace EmitModel.C18
open EmitModel.Traceparent

theorem valid_child (a : Active) (sid : Id) (f : Nat) (hv : a.tp.valid = true) :
    (⟨a.tp.traceId, some sid, f⟩ : TP).valid = true := by
  simp only [TP.valid, Bool.and_eq_true, Option.isSome_some, and_true] at hv ⊢
  exact hv.1

theorem openSpec_facts (c : Cfg) (e : Env) :
    ∃ a', (openSpec c e).2.2.1 = some a' ∧ a'.tp.valid = true ∧
      a'.tp.spanId = some (.gen (openSpec c e).2.2.2.rng) ∧ e.rng ≤ (openSpec c e).2.2.2.rng ∧
      (openSpec c e).2.2.2.calls = e.calls + (if validOf e.st then 0 else if c.hasSampler then 1 else 0) ∧
      (openSpec c e).2.2.2.st = e.st := by
  unfold openSpec
  cases hf : e.st.filter (fun a => a.tp.valid) with
  | none =>
    have hv := validOf_eq_false.2 hf
    rw [hv]
    cases c.hasSampler <;> simp only [Bool.false_eq_true, ↓reduceIte] <;>
      exact ⟨_, rfl, by simp only [TP.valid]; split <;> simp_all, rfl, by split <;> omega, by simp, by simp⟩
  | some a =>
    have hv : validOf e.st = true := by simp [validOf, hf]
    have hav : a.tp.valid = true := (Option.filter_eq_some_iff.1 hf).2
    rw [hv]
    exact ⟨_, rfl, valid_child a _ _ hav, rfl, by dsimp only; split <;> omega, rfl, rfl⟩

theorem enterSt_self_none (st : Option Active) : enterSt st none = st := by
  cases st <;> rfl

theorem validOf_stateActive (st : Option Active) (ts : Nat) : validOf (some (stateActive st ts)) = validOf st := by
  cases st with
  | none => simp [stateActive, validOf_some, validOf_none, TP.empty, TP.valid]
  | some a => simp [stateActive, validOf_some]

theorem below_stateActive (st : Option Active) (ts n : Nat) (hb : Below st n) : Below (some (stateActive st ts)) n := by
  intro a k h1 h2
  cases st with
  | none => cases h1; simp [stateActive, TP.empty] at h2
  | some b => cases h1; exact hb b k rfl (by simpa [stateActive] using h2)

/-- under an unsampled traceparent the ambient ids are hidden (`ambientIds`), so a trace id is drawn before the span id -/
theorem openSpec_unsampled (c : Cfg) (e : Env) (a : Active) (hst : e.st = some a) (hv : a.tp.valid = true)
    (hs : a.tp.sampled = false) :
    openSpec c e = (false, ⟨some (.gen (e.rng + 1)), none, some (.gen (e.rng + 2))⟩,
      some ⟨⟨a.tp.traceId, some (.gen (e.rng + 2)), 0⟩, a.tp.spanId, a.state⟩,
      { e with rng := e.rng + 2,
               out := .spanOpen false ⟨some (.gen (e.rng + 1)), none, some (.gen (e.rng + 2))⟩ :: e.out }) := by
  unfold openSpec
  simp [hst, Option.filter, hv, hs, ambientIds, Ids.empty]

theorem openSpec_sampled (c : Cfg) (e : Env) (a : Active) (hst : e.st = some a) (hv : a.tp.valid = true)
    (hs : a.tp.sampled = true) :
    openSpec c e = (true, ⟨a.tp.traceId, a.tp.spanId, some (.gen (e.rng + 1))⟩,
      some ⟨⟨a.tp.traceId, some (.gen (e.rng + 1)), a.tp.flags % 256⟩, a.tp.spanId, a.state⟩,
      { e with rng := e.rng + 1, out := .spanOpen true ⟨a.tp.traceId, a.tp.spanId, some (.gen (e.rng + 1))⟩ :: e.out }) := by
  have ht : a.tp.traceId.isSome = true := by simp only [TP.valid] at hv; simp_all
  have hsp : a.tp.spanId.isSome = true := by simp only [TP.valid] at hv; simp_all
  obtain ⟨sp, hsp'⟩ := Option.isSome_iff_exists.mp hsp
  unfold openSpec
  simp [hst, Option.filter, hv, hs, ambientIds, ht, hsp']

/-- masking the flags with ALL keeps the sampled bit -/
theorem sampled_all (t : TP) (tr sp : Option Id) : (⟨tr, sp, t.flags % 256⟩ : TP).sampled = t.sampled := by
  simp only [TP.sampled, Nat.mod_mod_of_dvd _ (by decide : 2 ∣ 256)]

theorem openSpec_valid (c : Cfg) (e : Env) (a : Active) (hst : e.st = some a) (hv : a.tp.valid = true) :
    ∃ child seen n f, openSpec c e = (a.tp.sampled, child,
        some ⟨⟨a.tp.traceId, some (.gen n), f⟩, a.tp.spanId, a.state⟩,
        { e with rng := n, out := .spanOpen a.tp.sampled seen :: e.out }) ∧ e.rng ≤ n ∧
      (f % 2 == 1) = a.tp.sampled ∧ (a.tp.sampled = true → seen.traceId = a.tp.traceId ∧ seen.spanId.isSome = true) := by
  cases hs : a.tp.sampled with
  | false =>
    exact ⟨_, _, _, 0, openSpec_unsampled c e a hst hv hs, by omega, rfl, fun h => by cases h⟩
  | true =>
    exact ⟨_, _, _, _, openSpec_sampled c e a hst hv hs, Nat.le_succ _, (sampled_all a.tp none none).trans hs,
      fun _ => ⟨rfl, rfl⟩⟩

end EmitModel.C18
