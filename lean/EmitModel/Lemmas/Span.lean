/-
  Lemmas/Span.lean — C04. (1) `runT` (the tree executed on the C03 machine, what the driver runs) computes the
  pure function `spec` of the ambient map and leaves the machine as it found it; (2) for clean trees `spec`
  computes the map-free trace tree `ref`; (3) `runT`'s effects on the machine are a well-nested, balanced block of C03
  events (`evsT`, `evsT_wellNested`).
-/
import EmitModel.Model.Span
import EmitModel.Lemmas.Ctxt
namespace EmitModel.Span
open EmitModel.Ctxt

theorem insertAll_nil {V : Type} (m : List (String × V)) : insertAll m [] = m := rfl

/-- what `runT`/`runL` guarantee about the machine state -/
structure Frame (s s' : St IdVal) (n n' : Nat) : Prop where
  active : ∀ t c, s'.active t c = s.active t c
  slots : ∀ f, f < n → s'.slot f = s.slot f
  mono : n ≤ n'

/-- Afterwards the machine is as before: the `exit` swaps back what `enter` saved in slot `n`, which the body does not
    touch. -/
theorem Frame.block (s : St IdVal) (t t' c n : Nat) (kind : Kind) (ps : List (String × IdVal)) :
    (step (step s (.open t c n kind ps)) (.enter t' c n)).active t' c = openFrame kind (s.active t c) ps ∧
    ∀ s3 n3, Frame (step (step s (.open t c n kind ps)) (.enter t' c n)) s3 (n + 1) n3 →
      Frame s (step s3 (.exit t' c n)) n n3 := by
  refine ⟨by simp [step, swap, setActive, setSlot], fun s3 n3 f => ⟨fun t'' c' => ?_, fun f' hf => ?_, ?_⟩⟩
  · simp only [step, swap, setActive]
    split
    · rename_i htc; obtain ⟨rfl, rfl⟩ := htc
      rw [f.slots n (Nat.lt_succ_self n)]
      simp [step, swap, setSlot]
    · rename_i htc; rw [f.active]; simp [step, swap, setActive, htc]
  · have hne : f' ≠ n := Nat.ne_of_lt hf
    simp only [step, swap, setSlot, hne, if_false]
    rw [f.slots f' (Nat.lt_succ_of_lt hf)]
    simp [step, swap, setSlot, hne]
  · exact Nat.le_trans (Nat.le_succ n) f.mono

mutual
theorem runT_eq_spec (tree : Tree) (t c : Nat) (s : St IdVal) (n : Nat) :
    (runT t c tree s n).1 = spec ((s.active t c).getD []) tree ∧
    Frame s (runT t c tree s n).2.1 n (runT t c tree s n).2.2 := by
  cases tree with
  | event | cur | panic => exact ⟨rfl, ⟨fun _ _ => rfl, fun _ _ => rfl, Nat.le_refl _⟩⟩
  | span id enabled rt rs user children =>
    obtain ⟨hact, hblock⟩ := Frame.block s t t c n (if enabled then Kind.push else Kind.disabled)
      (spanProps id user (newChild (current ((s.active t c).getD [])) rt rs))
    obtain ⟨h, f⟩ := runL_eq_spec children t c _ (n + 1)
    refine ⟨?_, hblock _ _ f⟩
    simp only [runT, spec]
    rw [h, f.active, hact]
    cases enabled <;> simp [openFrame, insertAll]
  | group t' children =>
    obtain ⟨hact, hblock⟩ := Frame.block s t t' c n Kind.current []
    obtain ⟨h, f⟩ := runL_eq_spec children t' c _ (n + 1)
    refine ⟨?_, hblock _ _ f⟩
    simp only [runT, spec]
    rw [h, hact]
    simp [openFrame, insertAll]
  | catch_ children =>
    have h := runL_eq_spec children t c s n
    simpa [runT, spec] using h
theorem runL_eq_spec (ts : List Tree) (t c : Nat) (s : St IdVal) (n : Nat) :
    (runL t c ts s n).1 = specL ((s.active t c).getD []) ts ∧
    Frame s (runL t c ts s n).2.1 n (runL t c ts s n).2.2 := by
  cases ts with
  | nil => exact ⟨rfl, ⟨fun _ _ => rfl, fun _ _ => rfl, Nat.le_refl _⟩⟩
  | cons x xs =>
    obtain ⟨h1, f1⟩ := runT_eq_spec x t c s n
    obtain ⟨h2, f2⟩ := runL_eq_spec xs t c (runT t c x s n).2.1 (runT t c x s n).2.2
    simp only [runL, specL]
    cases hp : x.panics with
    | true => simp only [if_true]; exact ⟨by rw [h1]; simp, f1⟩
    | false =>
      simp only [Bool.false_eq_true, if_false]
      refine ⟨?_, ?_⟩
      · rw [h1, h2, f1.active]
      · exact ⟨fun t c => (f2.active t c).trans (f1.active t c),
               fun f hf => (f2.slots f (Nat.lt_of_lt_of_le hf f1.mono)).trans (f1.slots f hf),
               Nat.le_trans f1.mono f2.mono⟩
end

def idKeys : List String := ["trace_id", "span_id", "span_parent"]

def NoKeys (ks : List String) (ps : List (String × IdVal)) : Prop := ∀ p ∈ ps, p.1 ∉ ks

mutual
/-- no event overrides an id key with a property of its own; no span's user ctxt props use an id key or `id` -/
def Clean : Tree → Prop
  | .event _ own => NoKeys idKeys own
  | .cur _ => True
  | .span _ _ _ _ user ch => NoKeys ("id" :: idKeys) user ∧ CleanL ch
  | .group _ ch => CleanL ch
  | .panic => True
  | .catch_ ch => CleanL ch
def CleanL : List Tree → Prop
  | [] => True
  | x :: xs => Clean x ∧ CleanL xs
end

theorem get_append_nokey (own amb : List (String × IdVal)) (k : String) (h : ∀ p ∈ own, p.1 ≠ k) :
    get (own ++ amb) k = get amb k := by
  induction own with
  | nil => rfl
  | cons a own ih =>
    obtain ⟨k', v⟩ := a
    have hne : k' ≠ k := h (k', v) List.mem_cons_self
    simp only [List.cons_append, Ctxt.get, hne, if_false]
    exact ih (fun p hp => h p (List.mem_cons_of_mem _ hp))

theorem current_append_clean (own amb : List (String × IdVal)) (h : NoKeys idKeys own) :
    current (own ++ amb) = current amb := by
  have hk : ∀ k ∈ idKeys, ∀ p ∈ own, p.1 ≠ k := fun k hk p hp e => h p hp (e ▸ hk)
  simp only [current]
  rw [get_append_nokey own amb "trace_id" (hk _ (by simp [idKeys])),
      get_append_nokey own amb "span_parent" (hk _ (by simp [idKeys])),
      get_append_nokey own amb "span_id" (hk _ (by simp [idKeys]))]

theorem lastOf_props (c : SpanCtxt) :
    lastOf c.props "trace_id" = c.trace.map IdVal.trace ∧
    lastOf c.props "span_id" = c.span.map IdVal.span ∧
    lastOf c.props "span_parent" = c.parent.map IdVal.span ∧
    lastOf c.props "id" = none := by
  obtain ⟨tr, pa, sp⟩ := c
  cases tr <;> cases pa <;> cases sp <;> simp [SpanCtxt.props, lastOf] <;> decide

/-- what the ambient ids are inside an enabled span: the child's, with the outer ones showing through where the
    child has none -/
theorem current_push (amb : List (String × IdVal)) (id : Nat) (user : List (String × IdVal))
    (hu : NoKeys ("id" :: idKeys) user) (child : SpanCtxt) :
    current (insertAll amb (spanProps id user child)) =
      ⟨child.trace.or (current amb).trace, child.parent.or (current amb).parent, child.span.or (current amb).span⟩ ∧
    pullNum (insertAll amb (spanProps id user child)) "id" = some id := by
  have hk : ∀ k ∈ "id" :: idKeys, ∀ p ∈ user, p.1 ≠ k := fun k hk p hp e => hu p hp (e ▸ hk)
  obtain ⟨h1, h2, h3, h4⟩ := lastOf_props child
  have key : ∀ k ∈ "id" :: idKeys, lastOf (spanProps id user child) k =
      (lastOf child.props k).or (if "id" = k then some (IdVal.num id) else none) := by
    intro k hk'
    have : spanProps id user child = [("id", IdVal.num id)] ++ (user ++ child.props) := rfl
    rw [this, lastOf_append, lastOf_append, lastOf_nokey user k (hk k hk')]
    simp [lastOf]
  refine ⟨?_, ?_⟩
  · simp only [current, get_insertAll]
    rw [key "trace_id" (by simp [idKeys]), key "span_id" (by simp [idKeys]), key "span_parent" (by simp [idKeys]),
      h1, h2, h3]
    have e1 : ("id" = "trace_id") = False := by decide
    have e2 : ("id" = "span_id") = False := by decide
    have e3 : ("id" = "span_parent") = False := by decide
    simp only [e1, e2, e3, if_false, Option.or_none]
    congr 1
    · cases child.trace <;> simp [castTrace]
    · cases child.parent <;> simp [castSpan]
    · cases child.span <;> simp [castSpan]
  · simp only [pullNum, get_insertAll]
    rw [key "id" (by simp), h4]
    simp

mutual
theorem spec_eq_ref (tree : Tree) (amb : List (String × IdVal)) (hc : Clean tree) :
    spec amb tree = ref (current amb).trace (current amb).span (current amb).parent tree := by
  cases tree with
  | event eid own =>
    simp only [Clean] at hc
    simp [spec, ref, recOf, current_append_clean own amb hc]
  | cur cid => simp [spec, ref, recOf]
  | span id enabled rt rs user children =>
    simp only [Clean] at hc
    cases enabled with
    | false => simp only [spec, ref]; exact specL_eq_refL children amb hc.2
    | true =>
      obtain ⟨h1, h2⟩ := current_push amb id user hc.1 (newChild (current amb) rt rs)
      simp only [spec, ref, if_true]
      rw [specL_eq_refL children _ hc.2, h2]
      simp only [recOf]
      rw [h1]
      simp only [newChild]
      -- both sides are `newChild`'s table, whichever of the five options are `none`
      generalize current amb = cur
      obtain ⟨tr, pa, sp⟩ := cur
      cases tr <;> cases randTrace rt <;> cases randSpan rs <;> cases sp <;> cases pa <;> simp
  | group _ children | catch_ children =>
    simp only [Clean] at hc
    simp only [spec, ref]; exact specL_eq_refL children amb hc
  | panic => rfl
theorem specL_eq_refL (ts : List Tree) (amb : List (String × IdVal)) (hc : CleanL ts) :
    specL amb ts = refL (current amb).trace (current amb).span (current amb).parent ts := by
  cases ts with
  | nil => rfl
  | cons x xs =>
    simp only [CleanL] at hc
    simp only [specL, refL, spec_eq_ref x amb hc.1, specL_eq_refL xs amb hc.2]
end

mutual
/-- The C03 events `runT` performs, in order (reading the context — `emit`, `SpanCtxt::current`, a completion —
    is an `observe`). -/
def evsT (t c : Nat) : Tree → St IdVal → Nat → List (Ev IdVal)
  | .event _ _, _, _ => [.observe t c]
  | .cur _, _, _ => [.observe t c]
  | .span id enabled rt rs user children, s, n =>
    let child := newChild (current ((s.active t c).getD [])) rt rs
    let kind := if enabled then Kind.push else Kind.disabled
    let s2 := step (step s (.open t c n kind (spanProps id user child))) (.enter t c n)
    [.open t c n kind (spanProps id user child), .enter t c n] ++ evsL t c children s2 (n + 1) ++
      (if enabled then [.observe t c] else []) ++ [.exit t c n]
  | .group t' children, s, n =>
    let s2 := step (step s (.open t c n Kind.current [])) (.enter t' c n)
    [.open t c n Kind.current [], .enter t' c n] ++ evsL t' c children s2 (n + 1) ++ [.exit t' c n]
  | .panic, _, _ => []
  | .catch_ children, s, n => evsL t c children s n
def evsL (t c : Nat) : List Tree → St IdVal → Nat → List (Ev IdVal)
  | [], _, _ => []
  | x :: xs, s, n =>
    evsT t c x s n ++ (if x.panics then [] else evsL t c xs (runT t c x s n).2.1 (runT t c x s n).2.2)
end

mutual
theorem exec_evsT (tree : Tree) (t c : Nat) (s : St IdVal) (n : Nat) :
    exec s (evsT t c tree s n) = (runT t c tree s n).2.1 := by
  cases tree with
  | event | cur | panic => rfl
  | span id enabled rt rs user children =>
    simp only [evsT, List.cons_append, List.nil_append, exec, exec_append]
    rw [exec_evsL children]
    cases enabled <;> simp [exec, runT, step]
  | group t' children =>
    simp only [evsT, List.cons_append, List.nil_append, exec, exec_append]
    rw [exec_evsL children]
    simp [runT]
  | catch_ children => simpa [evsT, runT] using exec_evsL children t c s n
theorem exec_evsL (ts : List Tree) (t c : Nat) (s : St IdVal) (n : Nat) :
    exec s (evsL t c ts s n) = (runL t c ts s n).2.1 := by
  cases ts with
  | nil => rfl
  | cons x xs =>
    cases hp : x.panics with
    | true => simp [evsL, runL, hp, exec_evsT x]
    | false => simp only [evsL, hp, Bool.false_eq_true, if_false, exec_append, exec_evsT x, exec_evsL xs, runL]
end

/-- handles from `n` on have never been opened -/
def FreshFrom (g : G IdVal) (n : Nat) : Prop := ∀ f, n ≤ f → g.ctxtOf f = none

/-- "this event list is a balanced well-nested block of the C03 discipline, from any consistent bookkeeping in
    which the handles from `n` on are unused" -/
def WN (evs : List (Ev IdVal)) (s : St IdVal) (n n' : Nat) : Prop :=
  ∀ g : G IdVal, Inv s g → FreshFrom g n →
    ∃ g', run s g evs = some (exec s evs, g') ∧ g'.stack = g.stack ∧ FreshFrom g' n'

/-- one frame's block: open handle `n` on thread `t`, enter it on thread `t'`, a balanced body, (an observation,)
    exit -/
theorem wn_block (s : St IdVal) (t t' c n n3 : Nat) (kind : Kind) (ps : List (String × IdVal))
    (body : List (Ev IdVal)) (obs : List (Ev IdVal)) (hobs : obs = [] ∨ obs = [.observe t' c])
    (hb : WN body (step (step s (.open t c n kind ps)) (.enter t' c n)) (n + 1) n3) :
    WN ([.open t c n kind ps, .enter t' c n] ++ body ++ obs ++ [.exit t' c n]) s n n3 := by
  intro g hi hf
  have hcn : g.ctxtOf n = none := hf n (Nat.le_refl n)
  have hln := hi.loc_none hcn
  let g1 := g.open s t c n kind ps
  have hw1 : wstep s g (.open t c n kind ps) = some g1 := (WStep.open t c n kind ps hcn).wstep
  have hi1 := inv_step hi _ _ hw1
  have hc1 : g1.ctxtOf n = some c := by simp [g1, G.open, setSlot]
  have hi2 := inv_step hi1 _ _ (WStep.enter t' hc1 hln).wstep
  have hf2 : FreshFrom (g1.enter t' c n) (n + 1) := by
    intro f hle
    have hne : f ≠ n := by omega
    simp only [G.enter, g1, G.open, setSlot, hne, if_false]
    exact hf f (by omega)
  obtain ⟨g3, hr3, hst3, hf3⟩ := hb _ hi2 hf2
  -- the completion's observation (if any) changes nothing
  have hr3' : run (step (step s (.open t c n kind ps)) (.enter t' c n)) (g1.enter t' c n) (body ++ obs) =
      some (exec (step (step s (.open t c n kind ps)) (.enter t' c n)) (body ++ obs), g3) := by
    rw [run_append, hr3, exec_append]
    rcases hobs with rfl | rfl <;> simp [run, wstep, exec, step]
  obtain ⟨hr4, hst4⟩ := run_block hc1 hln hr3' hst3
  refine ⟨_, ?_, hst4, hf3⟩
  rw [show [Ev.open t c n kind ps, .enter t' c n] ++ body ++ obs ++ [.exit t' c n] =
      .open t c n kind ps :: (.enter t' c n :: (body ++ obs) ++ [.exit t' c n]) by simp, run_cons hw1, hr4]
  simp [exec, exec_append]

mutual
theorem evsT_wellNested (tree : Tree) (t c : Nat) (s : St IdVal) (n : Nat) :
    WN (evsT t c tree s n) s n (runT t c tree s n).2.2 := by
  cases tree with
  | event | cur | panic => intro g _ hf; exact ⟨g, by simp [evsT, run, wstep, exec, step], rfl, hf⟩
  | span id enabled rt rs user children =>
    have hb := evsL_wellNested children t c
      (step (step s (.open t c n (if enabled then Kind.push else Kind.disabled)
        (spanProps id user (newChild (current ((s.active t c).getD [])) rt rs)))) (.enter t c n)) (n + 1)
    have := wn_block s t t c n _ _ _ _ (if enabled then [.observe t c] else [])
      (by cases enabled <;> simp) hb
    simpa [evsT, runT] using this
  | group t' children =>
    have hb := evsL_wellNested children t' c (step (step s (.open t c n Kind.current [])) (.enter t' c n)) (n + 1)
    have := wn_block s t t' c n _ _ _ _ [] (Or.inl rfl) hb
    simpa [evsT, runT] using this
  | catch_ children => simpa [evsT, runT] using evsL_wellNested children t c s n
theorem evsL_wellNested (ts : List Tree) (t c : Nat) (s : St IdVal) (n : Nat) :
    WN (evsL t c ts s n) s n (runL t c ts s n).2.2 := by
  cases ts with
  | nil => intro g _ hf; exact ⟨g, by simp [evsL, run, exec], rfl, hf⟩
  | cons x xs =>
    intro g hi hf
    obtain ⟨g1, hr1, hst1, hf1⟩ := evsT_wellNested x t c s n g hi hf
    cases hp : x.panics with
    | true => exact ⟨g1, by simpa [evsL, hp] using hr1, hst1, by simpa [runL, hp] using hf1⟩
    | false =>
      have hi1 := inv_run hi _ _ _ hr1
      rw [exec_evsT] at hr1 hi1
      obtain ⟨g2, hr2, hst2, hf2⟩ := evsL_wellNested xs t c _ _ g1 hi1 hf1
      refine ⟨g2, ?_, hst2.trans hst1, ?_⟩
      · simp only [evsL, hp, Bool.false_eq_true, if_false, run_append, hr1, Option.bind, hr2, exec_append, exec_evsT]
      · simpa [runL, hp] using hf2
end

end EmitModel.Span
