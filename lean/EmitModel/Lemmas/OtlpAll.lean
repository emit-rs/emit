/-
  Lemmas/OtlpAll.lean — the OTLP emitter with its three signals (Model/OtlpAll.lean): every signal runs an execution of
  its own composite (Model/OtlpPipe.lean), and only events the routing (C14) assigns to a signal ever enter its channel.
-/
import EmitModel.Model.OtlpAll
import EmitModel.Lemmas.OtlpPipe

namespace EmitModel.OtlpAll
open EmitModel EmitModel.Otlp

theorem get_set (s : St) (g g' : Signal) (p : OtlpPipe.St) : (s.set g p).get g' = if g' = g then p else s.get g' := by
  cases g <;> cases g' <;> rfl

theorem get_ghost_update (t : St) (e c : List Nat) (g : Signal) :
    ({ t with emitted := e, closedDrop := c } : St).get g = t.get g := by
  cases g <;> rfl

theorem step_sig (cfg : Cfg) (s s' : St) (l : Label) (h : step cfg s l = some s') (g : Signal) :
    s'.get g = s.get g ∨
    ∃ pl, OtlpPipe.step (cfg.pipe g) (s.get g) pl = some (s'.get g) ∧
      ((∃ x, pl = .chan (.send x) ∧ route cfg.logs cfg.traces cfg.metrics (cfg.shape x) = .signal g) ∨
       isSend pl = false) := by
  cases l with
  | emit x =>
    simp only [step] at h
    cases hr : route cfg.logs cfg.traces cfg.metrics (cfg.shape x) with
    | discard => simp only [hr, Option.some.injEq] at h; subst h; exact .inl rfl
    | signal g0 =>
      simp only [hr, Option.map_eq_some_iff] at h
      obtain ⟨p, hp, rfl⟩ := h
      rw [get_ghost_update, get_set]
      split
      · rename_i hg; subst hg; exact .inr ⟨_, hp, .inl ⟨x, rfl, hr⟩⟩
      · exact .inl rfl
  | sig g0 pl =>
    simp only [step] at h
    cases hsnd : isSend pl with
    | true => simp [hsnd] at h
    | false =>
      simp only [hsnd, Bool.false_eq_true, if_false, Option.map_eq_some_iff] at h
      obtain ⟨p, hp, rfl⟩ := h
      rw [get_set]
      split
      · rename_i hg; subst hg; exact .inr ⟨pl, hp, .inr hsnd⟩
      · exact .inl rfl

/-- Every signal of the emitter runs an execution of its own composite, and only events routed to it ever enter its
    channel. -/
theorem reachable_sig (cfg : Cfg) (net0 : Signal → Net) (s : St) (h : Reachable cfg net0 s) (g : Signal) :
    OtlpPipe.Reachable (cfg.pipe g) (net0 g) (s.get g) ∧
    ∀ x ∈ (s.get g).ch.accepted, route cfg.logs cfg.traces cfg.metrics (cfg.shape x) = .signal g := by
  constructor
  · have := Sched.Reachable.proj (step' := OtlpPipe.step (cfg.pipe g)) (proj := fun s => s.get g)
      (fun s l s' hs => (step_sig cfg s s' l hs g).symm.imp_left fun ⟨pl, hp, _⟩ => ⟨pl, hp⟩) h
    -- `(init net0).get g` is `OtlpPipe.init (net0 g)` only once `g` is a constructor
    cases g <;> exact this
  · refine Sched.invariant_of_step (Inv := fun s => ∀ x ∈ (s.get g).ch.accepted,
        route cfg.logs cfg.traces cfg.metrics (cfg.shape x) = .signal g) ?_ ?_ s h
    · intro x hx
      cases g <;> simp [init, St.get, OtlpPipe.init, Batcher.init] at hx
    · intro s l s' hacc hs x hx
      rcases step_sig cfg s s' l hs g with heq | ⟨pl, hp, hkind⟩
      · exact hacc x (heq ▸ hx)
      · rcases (OtlpPipe.accepted_step _ _ _ pl hp).2 x hx with hx | hx | hx
        · exact hacc x hx
        · -- the item of a send: it came through `emit`, which routed it here
          rcases hkind with ⟨y, hpl, hroute⟩ | hns
          · cases hpl.symm.trans hx; exact hroute
          · rw [hx] at hns; cases hns
        · rcases hkind with ⟨y, hpl, _⟩ | hns
          · cases hpl.symm.trans hx
          · rw [hx] at hns; cases hns

theorem set_ghost (s : St) (g : Signal) (p : OtlpPipe.St) :
    (s.set g p).emitted = s.emitted ∧ (s.set g p).discarded = s.discarded ∧ (s.set g p).closedDrop = s.closedDrop := by
  cases g <;> exact ⟨rfl, rfl, rfl⟩

structure Acct (cfg : Cfg) (s : St) : Prop where
  disc : s.discarded = s.emitted.filter fun x => decide (route cfg.logs cfg.traces cfg.metrics (cfg.shape x) = .discard)
  sig : ∀ x ∈ s.emitted, ∀ g, route cfg.logs cfg.traces cfg.metrics (cfg.shape x) = .signal g →
    x ∈ (s.get g).ch.accepted ∨ x ∈ s.closedDrop

theorem acct_reachable (cfg : Cfg) (net0 : Signal → Net) (s : St) (h : Reachable cfg net0 s) : Acct cfg s := by
  refine Sched.invariant_of_step (Inv := Acct cfg) ⟨rfl, by simp [init]⟩ ?_ s h
  intro s l s' ⟨hd, ha⟩ hs
  have hmono : ∀ g, ∀ y ∈ (s.get g).ch.accepted, y ∈ (s'.get g).ch.accepted := fun g y hy => by
    rcases step_sig cfg s s' l hs g with heq | ⟨pl, hp, _⟩
    · exact heq ▸ hy
    · exact (OtlpPipe.accepted_step _ _ _ pl hp).1 y hy
  cases l with
  | emit x =>
    simp only [step] at hs
    cases hr : route cfg.logs cfg.traces cfg.metrics (cfg.shape x) with
    | discard =>
      simp only [hr, Option.some.injEq] at hs
      subst hs
      refine ⟨by simp [List.filter_append, hd, hr], fun y hy g hg => ?_⟩
      rcases List.mem_append.mp hy with hy | hy
      · exact (ha y hy g hg).imp_left (hmono g y)
      · cases List.mem_singleton.mp hy; rw [hr] at hg; cases hg
    | signal g0 =>
      simp only [hr, Option.map_eq_some_iff] at hs
      obtain ⟨p, hp, rfl⟩ := hs
      obtain ⟨e1, e2, e3⟩ := set_ghost s g0 p
      refine ⟨by simp [List.filter_append, e2, hd, hr], fun y hy g hg => ?_⟩
      rcases List.mem_append.mp hy with hy | hy
      · rcases ha y hy g hg with h2 | h2
        · exact .inl (hmono g y h2)
        · right; split <;> simp [h2]
      · -- the new event: accepted by its signal's channel, or counted as dropped because that channel is closed
        cases List.mem_singleton.mp hy
        cases hr.symm.trans hg
        rw [OtlpPipe.step_chan] at hp
        obtain ⟨ch', hc, rfl⟩ := Option.map_eq_some_iff.mp hp
        simp only [Batcher.step] at hc
        split at hc <;> cases hc
        rw [get_ghost_update, get_set, if_pos rfl]
        rcases Batcher.send_accepted (cfg.pipe g0).ch (s.get g0).ch x with e | e
        · right; simp [e]
        · left; simp [e]
  | sig g0 pl =>
    simp only [step] at hs
    cases hsnd : isSend pl with
    | true => simp [hsnd] at hs
    | false =>
      simp only [hsnd, Bool.false_eq_true, if_false, Option.map_eq_some_iff] at hs
      obtain ⟨p, hp, rfl⟩ := hs
      obtain ⟨e1, e2, e3⟩ := set_ghost s g0 p
      refine ⟨by rw [e1, e2]; exact hd, fun y hy g hg => ?_⟩
      rw [e3]
      exact (ha y (e1 ▸ hy) g hg).imp_left (hmono g y)

end EmitModel.OtlpAll
