/-
  Lemmas/HexId.lean — C15. The *specification vocabulary* of the hex codecs (the documented alphabet `[0-9a-fA-F]`, the
  numeric value of a hex text, ASCII lower-casing — independent of the model's tables), the tables of Model/HexId.lean
  against it by kernel evaluation over all bytes, and from them what `decodePairs` and `try_from_hex_slice` accept.
-/
import EmitModel.Model.HexId
import EmitModel.Lemmas.Text

namespace EmitModel.HexId
open EmitModel.Text

/-- the documented alphabet `[0-9a-fA-F]` -/
def isHexDigit (b : UInt8) : Bool := (48 ≤ b && b ≤ 57) || (97 ≤ b && b ≤ 102) || (65 ≤ b && b ≤ 70)

def hexDigitVal (b : UInt8) : Nat :=
  if 48 ≤ b && b ≤ 57 then b.toNat - 48 else if 97 ≤ b && b ≤ 102 then b.toNat - 87 else b.toNat - 55

/-- numeric value of a hex text, most significant digit first -/
def hexValue (bs : List UInt8) : Nat := bs.foldl (fun acc b => acc * 16 + hexDigitVal b) 0

def asciiLower (b : UInt8) : UInt8 := if 65 ≤ b && b ≤ 90 then b + 32 else b

theorem byte_roundtrip : ∀ b : UInt8,
    (hexDecode (hexEncode (b >>> 4)) ||| hexDecode (hexEncode (b &&& 0x0f))) ≠ 0xff ∧
    ((hexDecode (hexEncode (b >>> 4)) <<< 4) ||| hexDecode (hexEncode (b &&& 0x0f))) = b := by
  apply forall_uint8
  decide +kernel

theorem hexDecode_spec : ∀ b : UInt8,
    (isHexDigit b = true →
      (hexDecode b).toNat = hexDigitVal b ∧ hexDecode b < 16 ∧ hexEncode (hexDecode b) = asciiLower b) ∧
    (isHexDigit b = false → hexDecode b = 0xff) := by
  apply forall_uint8
  decide +kernel

/-- swept over the 16 × 16 numerals below 16, not over 256 × 256 bytes -/
theorem nibble_pair : ∀ a b : UInt8, a < 16 → b < 16 →
    (a ||| b) ≠ 0xff ∧ ((a <<< 4) ||| b).toNat = a.toNat * 16 + b.toNat ∧
    ((a <<< 4) ||| b) >>> 4 = a ∧ ((a <<< 4) ||| b) &&& 0x0f = b := by
  have : ∀ n, n < 16 → ∀ m, m < 16 →
      (UInt8.ofNat n ||| UInt8.ofNat m) ≠ 0xff ∧
      ((UInt8.ofNat n <<< 4) ||| UInt8.ofNat m).toNat = (UInt8.ofNat n).toNat * 16 + (UInt8.ofNat m).toNat ∧
      ((UInt8.ofNat n <<< 4) ||| UInt8.ofNat m) >>> 4 = UInt8.ofNat n ∧
      ((UInt8.ofNat n <<< 4) ||| UInt8.ofNat m) &&& 0x0f = UInt8.ofNat m := by
    decide +kernel
  intro a b ha hb
  have := this a.toNat (by simpa [UInt8.lt_iff_toNat_lt] using ha) b.toNat (by simpa [UInt8.lt_iff_toNat_lt] using hb)
  simpa using this

/-- one step of the decode loop: the sentinel test is exactly "one of the two is not a hex digit" -/
theorem pair_sentinel (a b : UInt8) :
    ((hexDecode a ||| hexDecode b) == 0xff) = !(isHexDigit a && isHexDigit b) := by
  have sa := hexDecode_spec a
  have sb := hexDecode_spec b
  cases ha : isHexDigit a
  · rw [sa.2 ha]; exact beq_of_eq UInt8.neg_one_or
  cases hb : isHexDigit b
  · rw [sb.2 hb]; exact beq_of_eq UInt8.or_neg_one
  · simp [(nibble_pair _ _ (sa.1 ha).2.1 (sb.1 hb).2.1).1]

theorem hexDigitVal_zero : ∀ b : UInt8, isHexDigit b = true → (hexDigitVal b = 0 ↔ b = 48) := by
  apply forall_uint8
  decide +kernel

theorem toBeBytes_length (n v : Nat) : (toBeBytes n v).length = n := by
  induction n generalizing v with
  | zero => rfl
  | succ n ih => simp [toBeBytes, ih]

theorem encodeBytes_length (bs : List UInt8) : (encodeBytes bs).length = 2 * bs.length := by
  induction bs with
  | nil => rfl
  | cons b rest ih =>
    simp only [encodeBytes, List.flatMap_cons, List.length_append, List.length_cons, List.length_nil] at *
    omega

theorem toHex_length (n v : Nat) : (toHex n v).length = 2 * n := by
  simp [toHex, encodeBytes_length, toBeBytes_length]

theorem fromBeBytes_append (xs : List UInt8) (b : UInt8) :
    fromBeBytes (xs ++ [b]) = fromBeBytes xs * 256 + b.toNat := by
  simp [fromBeBytes, List.foldl_append]

theorem fromBeBytes_toBeBytes (n v : Nat) : fromBeBytes (toBeBytes n v) = v % 256 ^ n := by
  induction n generalizing v with
  | zero => simp [toBeBytes, fromBeBytes, Nat.mod_one]
  | succ n ih =>
    have : (UInt8.ofNat (v % 256)).toNat = v % 256 := by simp
    rw [toBeBytes, fromBeBytes_append, ih, this, Nat.pow_succ', Nat.mod_mul]
    omega

theorem toBeBytes_fromBeBytes (n : Nat) (dst : List UInt8) (h : dst.length = n) :
    toBeBytes n (fromBeBytes dst) = dst := by
  induction n generalizing dst with
  | zero => simp at h; subst h; rfl
  | succ n ih =>
    rcases List.eq_nil_or_concat dst with rfl | ⟨l, b, rfl⟩
    · simp at h
    · have hb := b.toNat_lt
      have h1 : (fromBeBytes l * 256 + b.toNat) / 256 = fromBeBytes l := by omega
      have h2 : (fromBeBytes l * 256 + b.toNat) % 256 = b.toNat := by omega
      rw [List.concat_eq_append, fromBeBytes_append, toBeBytes, h1, h2, ih l (by simpa using h)]
      simp

theorem fromBeBytes_lt (dst : List UInt8) : fromBeBytes dst < 256 ^ dst.length := by
  have h := fromBeBytes_toBeBytes dst.length (fromBeBytes dst)
  rw [toBeBytes_fromBeBytes _ _ rfl] at h
  rw [h]
  exact Nat.mod_lt _ (Nat.pow_pos (by decide))

theorem decodePairs_encodeBytes (bs : List UInt8) : decodePairs (encodeBytes bs) = some bs := by
  induction bs with
  | nil => rfl
  | cons b rest ih =>
    have h := byte_roundtrip b
    simp only [encodeBytes, List.flatMap_cons, List.cons_append, List.nil_append] at *
    simp [decodePairs, h.1, h.2, ih]

theorem encodeBytes_shape (bs : List UInt8) :
    ∀ c ∈ encodeBytes bs, isHexDigit c = true ∧ asciiLower c = c := by
  have pair : ∀ b : UInt8, ∀ c ∈ [hexEncode (b >>> 4), hexEncode (b &&& 0x0f)],
      isHexDigit c = true ∧ asciiLower c = c := by
    apply forall_uint8
    decide +kernel
  intro c hc
  obtain ⟨b, -, hb⟩ := List.mem_flatMap.1 hc
  exact pair b c hb

/-- the value from any start `A` of the two folds: the induction moves it -/
theorem decodePairs_some (bs dst : List UInt8) (h : decodePairs bs = some dst) :
    bs.length = 2 * dst.length ∧ (∀ b ∈ bs, isHexDigit b = true) ∧
    (∀ A, dst.foldl (fun acc b => acc * 256 + b.toNat) A = bs.foldl (fun acc b => acc * 16 + hexDigitVal b) A) ∧
    encodeBytes dst = bs.map asciiLower := by
  fun_induction decodePairs bs generalizing dst with
  | case1 => cases h; simp [encodeBytes]
  | case2 x => cases h
  | case3 a b rest h1 h2 hbad => cases h
  | case4 a b rest h1 h2 hok ih =>
    obtain ⟨tl, hr, rfl⟩ := Option.map_eq_some_iff.1 h
    have ⟨l, d, f, e⟩ := ih tl hr
    rw [pair_sentinel] at hok
    simp at hok
    have ⟨va, la, ea⟩ := (hexDecode_spec a).1 hok.1
    have ⟨vb, lb, eb⟩ := (hexDecode_spec b).1 hok.2
    have np := nibble_pair _ _ la lb
    refine ⟨by simp [l]; omega, ?_, ?_, ?_⟩
    · exact List.forall_mem_cons.2 ⟨hok.1, List.forall_mem_cons.2 ⟨hok.2, d⟩⟩
    · intro A
      simp only [List.foldl_cons]
      rw [f, np.2.1, va, vb]
      congr 1
      omega
    · simp only [encodeBytes, List.flatMap_cons, List.map_cons] at *
      rw [e, np.2.2.1, np.2.2.2, ea, eb]
      simp

theorem decodePairs_none (bs : List UInt8) (h : decodePairs bs = none) :
    bs.length % 2 = 1 ∨ ∃ b ∈ bs, isHexDigit b = false := by
  fun_induction decodePairs bs with
  | case1 => cases h
  | case2 x => simp
  | case3 a b rest h1 h2 hbad =>
    rw [pair_sentinel] at hbad
    right
    simp at hbad
    cases ha : isHexDigit a
    · exact ⟨a, by simp, ha⟩
    · exact ⟨b, by simp, by simpa [ha] using hbad⟩
  | case4 a b rest h1 h2 hok ih =>
    rcases ih (Option.map_eq_none_iff.1 h) with h | ⟨x, hx, hd⟩
    · left; simp; omega
    · right; exact ⟨x, by simp [hx], hd⟩

theorem foldl_hex_zero (bs : List UInt8) (A : Nat) :
    bs.foldl (fun acc b => acc * 16 + hexDigitVal b) A = 0 ↔ A = 0 ∧ ∀ b ∈ bs, hexDigitVal b = 0 := by
  induction bs generalizing A with
  | nil => simp
  | cons b rest ih =>
    simp only [List.foldl_cons, ih, List.mem_cons, forall_eq_or_imp]
    constructor
    · rintro ⟨h1, h2⟩; exact ⟨by omega, by omega, h2⟩
    · rintro ⟨h1, h2, h3⟩; exact ⟨by omega, h3⟩

theorem hexValue_zero (bs : List UInt8) (hd : ∀ b ∈ bs, isHexDigit b = true) :
    hexValue bs = 0 ↔ ∀ b ∈ bs, b = 48 := by
  unfold hexValue
  rw [foldl_hex_zero]
  simp only [true_and]
  exact forall₂_congr fun b hb => hexDigitVal_zero b (hd b hb)

theorem tryFromHexSlice_iff_decodePairs (n : Nat) (bs : List UInt8) (v : Nat) :
    tryFromHexSlice n bs = some v ↔
      bs.length = 2 * n ∧ ∃ dst, decodePairs bs = some dst ∧ fromBeBytes dst = v ∧ v ≠ 0 := by
  unfold tryFromHexSlice
  by_cases hl : bs.length = 2 * n
  · cases hd : decodePairs bs with
    | none => simp [hl]
    | some dst =>
      by_cases hz : fromBeBytes dst = 0 <;>
        simp only [hl, hz, ne_eq, not_true_eq_false, ↓reduceIte, Option.some.injEq, exists_eq_left', true_and]
      · exact ⟨nofun, fun h => absurd h.1.symm h.2⟩
      · exact ⟨fun h => ⟨h, h ▸ hz⟩, fun h => h.1⟩
  · simp [hl]

theorem tryFromHexSlice_eq_some (n : Nat) (bs : List UInt8) (v : Nat) :
    tryFromHexSlice n bs = some v ↔
      bs.length = 2 * n ∧ (∀ b ∈ bs, isHexDigit b = true) ∧ hexValue bs = v ∧ v ≠ 0 := by
  rw [tryFromHexSlice_iff_decodePairs]
  constructor
  · rintro ⟨hl, dst, hd, hv, nz⟩
    have ⟨_, hall, hval, _⟩ := decodePairs_some bs dst hd
    exact ⟨hl, hall, (hval 0).symm.trans hv, nz⟩
  · rintro ⟨hl, hall, hv, nz⟩
    cases hd : decodePairs bs with
    | none =>
      rcases decodePairs_none bs hd with h | ⟨b, hb, hbd⟩
      · omega
      · rw [hall b hb] at hbd; cases hbd
    | some dst => exact ⟨hl, dst, rfl, ((decodePairs_some bs dst hd).2.2.1 0).trans hv, nz⟩

/-- `try_from_hex` (through `Buffer<2n>`) accepts and rejects exactly what `try_from_hex_slice` does. -/
theorem tryFromHex_eq (n : Nat) (s : List UInt8) : tryFromHex n s = tryFromHexSlice n s := by
  unfold tryFromHex buffer
  by_cases h : s.length ≤ 2 * n
  · simp [h]
  · have : s.length ≠ 2 * n := by omega
    simp [h, tryFromHexSlice, this]

theorem tryFromHexSlice_toHex (n v : Nat) (h0 : v ≠ 0) (hlt : v < 256 ^ n) :
    tryFromHexSlice n (toHex n v) = some v := by
  unfold tryFromHexSlice
  simp only [toHex_length, ne_eq, not_true_eq_false, ↓reduceIte]
  simp only [toHex, decodePairs_encodeBytes, fromBeBytes_toBeBytes, Nat.mod_eq_of_lt hlt, h0, ↓reduceIte]

end EmitModel.HexId
