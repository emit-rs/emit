/-
  Lemmas/TraceparentText.lean — C15, Model/TraceparentText.lean: a 55-byte text that passes the separator/version
  checks *is* `00-` t `-` s `-` f with |t| = 32, |s| = 16, |f| = 2, and the parser on such a frame is the three field
  parsers.
-/
import EmitModel.Lemmas.HexId
import EmitModel.Model.TraceparentText
import EmitModel.Lemmas.Text

namespace EmitModel.TraceparentText
open EmitModel.HexId EmitModel.Text

/-- an id field of `2n` hex digits (trace id: `n = 16`, span id: `n = 8`): all zeros mean "no id" -/
def idOf (n : Nat) (x : List UInt8) : Option (Option Nat) :=
  if x = zeros (2 * n) then some none else (tryFromHexSlice n x).map some

def idText (n : Nat) : Option Nat → List UInt8
  | some v => toHex n v
  | none => zeros (2 * n)

/-- the documented version-00 layout -/
def frame (t s f : List UInt8) : List UInt8 := [48, 48, 45] ++ t ++ [45] ++ s ++ [45] ++ f

theorem sub_frame (t s f : List UInt8) (ht : t.length = 32) (hs : s.length = 16) (hf : f.length = 2) :
    (frame t s f).length = 55 ∧ (frame t s f)[2]? = some 45 ∧ (frame t s f)[35]? = some 45 ∧
    (frame t s f)[52]? = some 45 ∧ sub (frame t s f) 0 2 = [48, 48] ∧ sub (frame t s f) 3 35 = t ∧
    sub (frame t s f) 36 52 = s ∧ sub (frame t s f) 53 55 = f := by
  -- what `simp` leaves of the last range, 53..55: offsets past the end of `t` and `s`, and two bytes of `f`
  have e1 : List.drop 50 t = [] := List.drop_eq_nil_of_le (by omega)
  have e2 : List.drop 17 s = [] := List.drop_eq_nil_of_le (by omega)
  have e3 : List.take 2 f = f := List.take_of_length_le (by omega)
  refine ⟨by simp [frame, ht, hs, hf], by simp [frame], ?_, ?_, by simp [frame, sub], ?_, ?_, ?_⟩
  · simp [frame, ht, hs, hf]
  · simp [frame, ht, hs, hf]
  · simp [frame, sub, ht]
  · simp [frame, sub, List.drop_append, List.take_append, ht, hs]
  · simp [frame, sub, List.drop_append, ht, hs, e1, e2, e3]

theorem parse_frame (t s f : List UInt8) (ht : t.length = 32) (hs : s.length = 16) (hf : f.length = 2) :
    parseTraceparent (frame t s f) =
      (idOf 16 t).bind fun tid => (idOf 8 s).bind fun sid => (flagsParse f).map fun fl => ⟨tid, sid, fl⟩ := by
  have ⟨h1, h2, h3, h4, h5, h6, h7, h8⟩ := sub_frame t s f ht hs hf
  unfold parseTraceparent
  simp only [h1, h2, h3, h4, h5, h6, h7, h8, dash, ne_eq, not_true_eq_false, or_self, ↓reduceIte]
  -- the model's own nested `match`es on `if … zeros …`, read as `idOf` (defeq), so that the three can be case-split
  show (match idOf 16 t with | none => none | some tid => match idOf 8 s with | none => none | some sid => _) = _
  cases idOf 16 t <;> cases idOf 8 s <;> cases flagsParse f <;> rfl

theorem parse_frame_isSome (t s f : List UInt8) (ht : t.length = 32) (hs : s.length = 16) (hf : f.length = 2) :
    (parseTraceparent (frame t s f)).isSome = true ↔
      (idOf 16 t).isSome = true ∧ (idOf 8 s).isSome = true ∧ (flagsParse f).isSome = true := by
  rw [parse_frame t s f ht hs hf]
  cases idOf 16 t <;> cases idOf 8 s <;> cases flagsParse f <;> simp

theorem parse_some_shape (bs : List UInt8) (tp : Traceparent) (h : parseTraceparent bs = some tp) :
    ∃ t s f, bs = frame t s f ∧ t.length = 32 ∧ s.length = 16 ∧ f.length = 2 := by
  unfold parseTraceparent at h
  split at h
  · cases h
  rename_i hl
  split at h
  · cases h
  rename_i hsep
  split at h
  · cases h
  rename_i hv
  simp only [dash, sub, ne_eq, not_or, Decidable.not_not] at hl hsep hv
  obtain ⟨h2, h35, h52⟩ := hsep
  refine ⟨sub bs 3 35, sub bs 36 52, sub bs 53 55, ?_, by simp [sub, hl], by simp [sub, hl], by simp [sub, hl]⟩
  have e : (bs.drop 53).take (55 - 53) = bs.drop 53 := List.take_of_length_le (by simp [hl])
  conv => lhs; rw [← List.drop_zero (l := bs), drop_cut bs 0 2 45 (by omega) h2, hv,
    drop_cut bs 3 35 45 (by omega) h35, drop_cut bs 36 52 45 (by omega) h52]
  simp only [frame, sub, e, List.cons_append, List.nil_append, List.append_assoc]

/-- the text of an id parses to the id, and all zeros would parse to 0 -/
theorem toHex_ne_zeros (n v : Nat) (h0 : v ≠ 0) (hlt : v < 256 ^ n) : toHex n v ≠ zeros (2 * n) := by
  intro h
  have ⟨_, d, e, _⟩ := (tryFromHexSlice_eq_some n _ v).1 (h ▸ tryFromHexSlice_toHex n v h0 hlt)
  exact h0 (e ▸ (hexValue_zero _ d).2 (by simp [zeros]))

theorem fmtTraceparent_eq (tp : Traceparent) :
    fmtTraceparent tp = frame (idText 16 tp.traceId) (idText 8 tp.spanId) (flagsToHex tp.flags) := by
  obtain ⟨_ | t, _ | s, fl⟩ := tp <;> simp [fmtTraceparent, frame, idText, dash]

theorem idText_length (n : Nat) (o : Option Nat) : (idText n o).length = 2 * n := by
  cases o with
  | none => simp [idText, zeros]
  | some v => exact toHex_length n v

theorem idOf_idText (n : Nat) (o : Option Nat) (h : ∀ v, o = some v → v ≠ 0 ∧ v < 256 ^ n) :
    idOf n (idText n o) = some o := by
  cases o with
  | none => simp [idOf, idText]
  | some v =>
    obtain ⟨h0, hlt⟩ := h v rfl
    simp [idOf, idText, toHex_ne_zeros n v h0 hlt, tryFromHexSlice_toHex n v h0 hlt]

theorem idOf_isSome (n : Nat) (x : List UInt8) (hl : x.length = 2 * n) :
    (idOf n x).isSome = true ↔ ∀ b ∈ x, isHexDigit b = true := by
  unfold idOf
  by_cases hz : x = zeros (2 * n)
  · simp only [hz, ↓reduceIte, Option.isSome_some, true_iff]
    intro b hb
    obtain rfl : b = 48 := (List.mem_replicate.1 hb).2
    decide
  · simp only [hz, ↓reduceIte, Option.isSome_map, Option.isSome_iff_exists, tryFromHexSlice_eq_some]
    constructor
    · rintro ⟨_, _, h, _⟩; exact h
    · intro h
      refine ⟨_, hl, h, rfl, fun h0 => hz ?_⟩
      have hall := (hexValue_zero x h).1 h0
      exact List.eq_replicate_iff.2 ⟨hl, hall⟩

end EmitModel.TraceparentText
