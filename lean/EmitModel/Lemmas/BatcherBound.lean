/-
  Lemmas/BatcherBound.lean — C08 safety invariants: retry budget / per-batch call counts / back-off delays
  (`InvBound`) and conservation of callbacks (`InvCount`).
-/
import EmitModel.Lemmas.Batcher
namespace EmitModel.Batcher
open EmitModel.Sched

theorem bumpLast_append (ini : List Nat) (n : Nat) : bumpLast (ini ++ [n]) = ini ++ [n + 1] := by
  induction ini with
  | nil => rfl
  | cons a t ih =>
    cases t with
    | nil => simp [bumpLast]
    | cons b t' => simp only [List.cons_append] at ih ⊢; rw [bumpLast, ih]; simp

theorem delayNext_le (cur step cap : Nat) : delayNext cur step cap ≤ cap := by
  unfold delayNext; omega

theorem delayNext_ge (cur step cap : Nat) (h : cur ≤ cap) : cur ≤ delayNext cur step cap := by
  unfold delayNext; omega

/-- What C08 claims are `perBatch`, `lenEq`, `sumEq`, `bwSorted`, `waitsLe` and the bounds on `retryCur` in `proc` /
    `rwait`; the `∃ ini` parts (the last entry of `callsPerBatch` counts the running batch), `rdelay`, `idelay` and
    `bwLe` are there to make it inductive. -/
structure InvBound (cfg : Cfg) (s : St) : Prop where
  proc : ∀ o c w, s.rx = .processing o c w →
    s.retryCur ≤ cfg.retryMax ∧ ∃ ini, s.callsPerBatch = ini ++ [s.retryCur + 1]
  rwait : ∀ o r w, s.rx = .retryWait o r w →
    s.retryCur ≤ cfg.retryMax ∧ 1 ≤ s.retryCur ∧ ∃ ini, s.callsPerBatch = ini ++ [s.retryCur]
  perBatch : ∀ n ∈ s.callsPerBatch, n ≤ 1 + cfg.retryMax
  lenEq : s.callsPerBatch.length = s.firstAttempts.length
  sumEq : s.callsPerBatch.sum = s.calls.length
  rdelay : s.retryDelay ≤ cfg.retryCap
  idelay : s.idleDelay ≤ cfg.idleCap
  bwLe : ∀ d ∈ s.batchWaits, d ≤ s.retryDelay
  bwSorted : s.batchWaits.Pairwise (· ≤ ·)
  waitsLe : ∀ d ∈ s.waits, d ≤ max cfg.retryCap cfg.idleCap

theorem invBound_step (cfg : Cfg) (s : St) (l : Label) (s' : St) (h : InvBound cfg s)
    (hs : step cfg s l = some s') : InvBound cfg s' := by
  have waits : ∀ d, d ≤ cfg.retryCap ∨ d ≤ cfg.idleCap → ∀ d' ∈ s.waits ++ [d], d' ≤ max cfg.retryCap cfg.idleCap :=
    fun d hd => List.forall_mem_append.mpr ⟨h.waitsLe, List.forall_mem_singleton.mpr (by omega)⟩
  cases Step.of_step hs with
  | begin =>
    exact { h with
      proc := fun _ _ _ _ => ⟨Nat.zero_le _, _, rfl⟩, rwait := nofun
      perBatch := List.forall_mem_append.mpr ⟨h.perBatch, List.forall_mem_singleton.mpr (by omega)⟩
      lenEq := by simp [h.lenEq], sumEq := by simp [h.sumEq], rdelay := Nat.zero_le _, idelay := Nat.zero_le _
      bwLe := nofun, bwSorted := .nil }
  | idleWait =>
    exact { h with proc := nofun, rwait := nofun, idelay := delayNext_le _ _ _
                   waitsLe := waits _ (.inr (delayNext_le _ _ _)) }
  | retry s orig cur ws rem hr hc =>
    have bw : ∀ d ∈ s.batchWaits, d ≤ delayNext s.retryDelay cfg.retryStep cfg.retryCap :=
      fun d hd => Nat.le_trans (h.bwLe d hd) (delayNext_ge _ _ _ h.rdelay)
    exact { h with
      proc := nofun, rwait := fun _ _ _ _ => ⟨hc, Nat.le_add_left 1 _, (h.proc _ _ _ rfl).2⟩
      rdelay := delayNext_le _ _ _
      bwLe := List.forall_mem_append.mpr ⟨bw, List.forall_mem_singleton.mpr (Nat.le_refl _)⟩
      bwSorted := List.pairwise_append.mpr ⟨h.bwSorted, List.pairwise_singleton _ _,
        fun a ha b hb => by rw [List.mem_singleton.mp hb]; exact bw a ha⟩
      waitsLe := waits _ (.inl (delayNext_le _ _ _)) }
  | retryWaited s orig rem ws =>
    obtain ⟨hle, _, ini, hini⟩ := h.rwait _ _ _ rfl
    dsimp only at hle hini
    have hb : bumpLast s.callsPerBatch = ini ++ [s.retryCur + 1] := by rw [hini]; exact bumpLast_append ini _
    exact { h with
      proc := fun _ _ _ _ => ⟨hle, ini, hb⟩, rwait := nofun
      perBatch := hb ▸ List.forall_mem_append.mpr
        ⟨fun n hn => h.perBatch n (hini ▸ List.mem_append_left _ hn), List.forall_mem_singleton.mpr (by omega)⟩
      lenEq := by rw [hb, ← h.lenEq, hini]; simp
      sumEq := by rw [hb, List.length_append, ← h.sumEq, hini]; simp; omega }
  | take | fireTake | fireFlushEmpty | «return» | idleWaited | dropReceiver =>
    exact { h with proc := nofun, rwait := nofun }
  | fireFlush | conclude => exact { h with proc := by simp, rwait := by simp }
  | _ => exact { h with }

theorem invBound_reachable (cfg : Cfg) (s : St) (h : Reachable cfg s) : InvBound cfg s :=
  invariant_of_step (by constructor <;> simp [init]) (invBound_step cfg) s h

/-- Conservation of callbacks: every registration is in exactly one place — ran, attached to the pending batch,
    travelling with the batch the receiver holds, or dropped unrun by a receiver teardown. -/
structure InvCount (s : St) : Prop where
  flush : ∀ w, s.registered.count w =
    s.fired.count w + s.pendFlushW.count w + s.rx.ws.count w + s.dropped.count w
  take : ∀ w, s.registeredTake.count w = s.firedTake.count w + s.pendTakeW.count w + s.rx.takeWs.count w

theorem invCount_step (cfg : Cfg) (s : St) (l : Label) (s' : St) (h : InvCount s)
    (hs : step cfg s l = some s') : InvCount s' := by
  cases Step.of_step hs
  -- a callback is registered or changes place: one summand moves
  case whenFlushedNow | whenFlushedLater | whenEmptyNow | whenEmptyLater | take | fireTake |
      fireFlushEmpty | fireFlush =>
    constructor <;> intro w <;> have a := h.flush w <;> have b := h.take w <;>
      simp only [List.count_append, List.count_cons, List.count_nil, ws_taken, takeWs_taken, ws_idle, takeWs_idle,
        ws_notifying, takeWs_notifying, afterNotify_ws, afterNotify_takeWs] at a b ⊢ <;> omega
  case dropReceiver h1 _ _ =>
    exact ⟨fun w => by have := h.flush w; simp [List.count_append] at this ⊢; omega,
      fun w => by simpa [(Rx.not_taken h1).2] using h.take w⟩
  all_goals exact ⟨by simpa using h.flush, by simpa using h.take⟩

theorem invCount_reachable (cfg : Cfg) (s : St) (h : Reachable cfg s) : InvCount s :=
  invariant_of_step (by constructor <;> simp [init]) (invCount_step cfg) s h

end EmitModel.Batcher
