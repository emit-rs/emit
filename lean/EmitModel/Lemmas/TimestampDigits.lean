/-
  Lemmas/TimestampDigits.lean — C15. Decimal digit strings: byte order of equal-length digit strings is the order of
  their values and the value determines the string (`digits_cmp`); fixed-width rendering and the `digits` parser are
  inverse to each other.
-/
import EmitModel.Model.Timestamp
import EmitModel.Lemmas.Text

namespace EmitModel.Timestamp
open EmitModel.Text

theorem dig_spec : ∀ n, n < 10 → isDigit (dig n) = true ∧ digitVal (dig n) = n := by decide

theorem digit_toNat : ∀ b : UInt8, isDigit b = true → b.toNat = 48 + digitVal b ∧ digitVal b < 10 := by
  apply forall_uint8
  decide +kernel

def BLt (a b : List UInt8) : Prop := bytesLt a b = true

theorem blt_nil (a : List UInt8) : ¬ BLt a [] := by
  cases a <;> simp [BLt, bytesLt]

theorem blt_irrefl (a : List UInt8) : ¬ BLt a a := by
  induction a with
  | nil => simp [BLt, bytesLt]
  | cons x xs ih => simpa [BLt, bytesLt, UInt8.lt_irrefl] using ih

theorem blt_append (x1 x2 r1 r2 : List UInt8) (h : x1.length = x2.length) :
    BLt (x1 ++ r1) (x2 ++ r2) ↔ BLt x1 x2 ∨ (x1 = x2 ∧ BLt r1 r2) := by
  induction x1 generalizing x2 with
  | nil =>
    have : x2 = [] := List.eq_nil_of_length_eq_zero (by simpa using h.symm)
    subst this
    simp [BLt, bytesLt]
  | cons a as ih =>
    cases x2 with
    | nil => simp at h
    | cons b bs =>
      have hl : as.length = bs.length := by simpa using h
      have := ih bs hl
      simp only [BLt] at this ⊢
      simp only [List.cons_append, bytesLt, Bool.or_eq_true, decide_eq_true_eq, Bool.and_eq_true, beq_iff_eq,
        this, List.cons.injEq]
      rw [and_or_left, ← or_assoc, ← and_assoc]

/-- the two `v` need only differ by less than `P`, not be below it: a field that runs 1..12 has radix 12 -/
theorem lex_mul (dx dy vx vy P : Nat) (hx : vx < vy + P) (hy : vy < vx + P) :
    (dx * P + vx < dy * P + vy ↔ dx < dy ∨ (dx = dy ∧ vx < vy)) ∧
    (dx * P + vx = dy * P + vy ↔ dx = dy ∧ vx = vy) := by
  have h1 : dx < dy → (dx + 1) * P ≤ dy * P := Nat.mul_le_mul_right P
  have h2 : dy < dx → (dy + 1) * P ≤ dx * P := Nat.mul_le_mul_right P
  rw [Nat.succ_mul] at h1 h2
  rcases Nat.lt_trichotomy dx dy with h | rfl | h <;> omega

theorem digitsVal_acc (xs : List UInt8) (acc : Nat) :
    xs.foldl (fun acc b => acc * 10 + digitVal b) acc =
      acc * 10 ^ xs.length + xs.foldl (fun acc b => acc * 10 + digitVal b) 0 := by
  induction xs generalizing acc with
  | nil => simp
  | cons b rest ih =>
    simp only [List.foldl_cons, List.length_cons]
    rw [ih (acc * 10 + digitVal b), ih (0 * 10 + digitVal b), Nat.pow_succ]
    simp only [Nat.zero_mul, Nat.zero_add, Nat.add_mul, Nat.mul_assoc, Nat.add_assoc]
    rw [Nat.mul_comm 10 (10 ^ rest.length)]

theorem digitsVal_cons (x : UInt8) (xs : List UInt8) :
    digitsVal (x :: xs) = digitVal x * 10 ^ xs.length + digitsVal xs := by
  simp only [digitsVal, List.foldl_cons, Nat.zero_mul, Nat.zero_add]
  exact digitsVal_acc xs (digitVal x)

theorem digitsVal_append' (xs ys : List UInt8) :
    digitsVal (xs ++ ys) = digitsVal xs * 10 ^ ys.length + digitsVal ys := by
  simp only [digitsVal, List.foldl_append]
  exact digitsVal_acc ys _

theorem digitsVal_lt (F : List UInt8) (h : F.all isDigit = true) : digitsVal F < 10 ^ F.length := by
  induction F with
  | nil => decide
  | cons b rest ih =>
    simp only [List.all_cons, Bool.and_eq_true] at h
    have hb := Nat.mul_le_mul_right (10 ^ rest.length) (digit_toNat b h.1).2
    have := ih h.2
    rw [digitsVal_cons, List.length_cons, Nat.pow_succ]
    rw [Nat.succ_mul] at hb
    omega

theorem digit_cmp (x y : UInt8) (hx : isDigit x = true) (hy : isDigit y = true) :
    (x < y ↔ digitVal x < digitVal y) ∧ (x = y ↔ digitVal x = digitVal y) := by
  have := digit_toNat x hx
  have := digit_toNat y hy
  rw [UInt8.lt_iff_toNat_lt, ← UInt8.toNat_inj]
  omega

theorem digits_cmp (a b : List UInt8) (hl : a.length = b.length) (ha : a.all isDigit = true)
    (hb : b.all isDigit = true) :
    (BLt a b ↔ digitsVal a < digitsVal b) ∧ (a = b ↔ digitsVal a = digitsVal b) := by
  induction a generalizing b with
  | nil =>
    have : b = [] := List.eq_nil_of_length_eq_zero (by simpa using hl.symm)
    subst this
    simp [BLt, bytesLt]
  | cons x xs ih =>
    cases b with
    | nil => simp at hl
    | cons y ys =>
      simp only [List.all_cons, Bool.and_eq_true] at ha hb
      have hl' : xs.length = ys.length := by simpa using hl
      obtain ⟨i1, i2⟩ := ih ys hl' ha.2 hb.2
      obtain ⟨c1, c2⟩ := digit_cmp x y ha.1 hb.1
      have vx' := digitsVal_lt xs ha.2
      have vy' := digitsVal_lt ys hb.2
      rw [← hl'] at vy'
      obtain ⟨m1, m2⟩ := lex_mul (digitVal x) (digitVal y) (digitsVal xs) (digitsVal ys) (10 ^ xs.length) (by omega) (by omega)
      rw [digitsVal_cons, digitsVal_cons, ← hl']
      have hb1 : BLt (x :: xs) (y :: ys) ↔ x < y ∨ (x = y ∧ BLt xs ys) := by
        simp [BLt, bytesLt]
      rw [hb1, m1, m2, c1, c2, i1, List.cons.injEq, c2, i2]
      exact ⟨Iff.rfl, Iff.rfl⟩

theorem blt_sep (c : UInt8) (r1 r2 : List UInt8) : BLt (c :: r1) (c :: r2) ↔ BLt r1 r2 := by
  simp [BLt, bytesLt]

theorem digits_some (bs : List UInt8) (v : Nat) (h : digits bs = some v) :
    bs.all isDigit = true ∧ digitsVal bs = v := by
  unfold digits at h
  split at h
  · rename_i hd; exact ⟨hd, by simpa using h⟩
  · cases h

def two (x : Nat) : List UInt8 := [dig (x / 10), dig (x % 10)]
def four (x : Nat) : List UInt8 := [dig (x / 1000), dig (x / 100 % 10), dig (x / 10 % 10), dig (x % 10)]

/- on the spelled-out lists: `parse_text` uses them after `simp` has unfolded `two`, `four` to index into the text -/
theorem digits2 (x : Nat) (hx : x < 100) : digits [dig (x / 10), dig (x % 10)] = some x := by
  have h1 := dig_spec (x / 10) (by omega)
  have h2 := dig_spec (x % 10) (by omega)
  simp only [digits, List.all_cons, List.all_nil, h1.1, h2.1, Bool.and_self, ↓reduceIte, digitsVal,
    List.foldl_cons, List.foldl_nil, h1.2, h2.2]
  congr 1
  omega

theorem digits4 (x : Nat) (hx : x < 10000) :
    digits [dig (x / 1000), dig (x / 100 % 10), dig (x / 10 % 10), dig (x % 10)] = some x := by
  have h1 := dig_spec (x / 1000) (by omega)
  have h2 := dig_spec (x / 100 % 10) (by omega)
  have h3 := dig_spec (x / 10 % 10) (by omega)
  have h4 := dig_spec (x % 10) (by omega)
  simp only [digits, List.all_cons, List.all_nil, h1.1, h2.1, h3.1, h4.1, Bool.and_self, ↓reduceIte, digitsVal,
    List.foldl_cons, List.foldl_nil, h1.2, h2.2, h3.2, h4.2]
  congr 1
  omega

theorem two_spec (x : Nat) (hx : x < 100) : (two x).all isDigit = true ∧ digitsVal (two x) = x ∧ (two x).length = 2 := by
  have := digits_some _ _ (digits2 x hx)
  exact ⟨this.1, this.2, rfl⟩

theorem four_spec (x : Nat) (hx : x < 10000) :
    (four x).all isDigit = true ∧ digitsVal (four x) = x ∧ (four x).length = 4 := by
  have := digits_some _ _ (digits4 x hx)
  exact ⟨this.1, this.2, rfl⟩

/-- `spec` is `two_spec` or `four_spec`; equal-length digit strings with equal values are equal (`digits_cmp`) -/
theorem digits_render {w : Nat} {f : Nat → List UInt8}
    (spec : ∀ x, x < 10 ^ w → (f x).all isDigit = true ∧ digitsVal (f x) = x ∧ (f x).length = w)
    (bs : List UInt8) (v : Nat) (hl : bs.length = w) (h : digits bs = some v) : bs = f v ∧ v < 10 ^ w := by
  obtain ⟨hd, rfl⟩ := digits_some _ _ h
  have hlt : digitsVal bs < 10 ^ w := hl ▸ digitsVal_lt bs hd
  obtain ⟨hd', hv', hl'⟩ := spec _ hlt
  exact ⟨((digits_cmp bs (f _) (hl.trans hl'.symm) hd hd').2).2 hv'.symm, hlt⟩

theorem fracDigits_succ (k n : Nat) : fracDigits (k + 1) n = fracDigits k n ++ [dig (n / 10 ^ (8 - k) % 10)] := by
  simp [fracDigits, List.range_succ]

theorem fracDigits_length (k n : Nat) : (fracDigits k n).length = k := by simp [fracDigits]

theorem fracDigits_spec (k n : Nat) (hk : k ≤ 9) (hn : n < 10 ^ 9) :
    (fracDigits k n).all isDigit = true ∧ digitsVal (fracDigits k n) = n / 10 ^ (9 - k) ∧
      (fracDigits k n).length = k := by
  refine and_assoc.1 ⟨?_, fracDigits_length k n⟩
  induction k with
  | zero => simp [fracDigits, digitsVal]; omega
  | succ k ih =>
    have ⟨a, v⟩ := ih (by omega)
    have hd := dig_spec (n / 10 ^ (8 - k) % 10) (Nat.mod_lt _ (by decide))
    rw [fracDigits_succ, digitsVal_append', List.all_append, a, v]
    simp only [digitsVal, List.foldl_cons, List.foldl_nil, Nat.zero_mul, Nat.zero_add, hd.2, List.length_singleton,
      Nat.pow_one]
    refine ⟨by simp [hd.1], ?_⟩
    have e : 9 - k = (8 - k) + 1 := by omega
    have e' : 9 - (k + 1) = 8 - k := by omega
    rw [e, e', Nat.pow_succ, ← Nat.div_div_eq_div_mul]
    omega

/-- the hypotheses are what `two_spec`, `four_spec`, `fracDigits_spec` give -/
theorem blt_field {a b : List UInt8} {x y w : Nat} (ha : a.all isDigit = true ∧ digitsVal a = x ∧ a.length = w)
    (hb : b.all isDigit = true ∧ digitsVal b = y ∧ b.length = w) (r1 r2 : List UInt8) :
    BLt (a ++ r1) (b ++ r2) ↔ x < y ∨ (x = y ∧ BLt r1 r2) := by
  have hl := ha.2.2.trans hb.2.2.symm
  obtain ⟨c1, c2⟩ := digits_cmp a b hl ha.1 hb.1
  rw [blt_append a b r1 r2 hl, c1, c2, ha.2.1, hb.2.1]

end EmitModel.Timestamp
