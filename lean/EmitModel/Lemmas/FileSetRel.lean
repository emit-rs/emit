/-
  Lemmas/FileSetRel.lean — what any sequence of worker steps guarantees about the directory:
  log entries name members only; a durable file keeps its synced bytes unless the worker deleted it (logged);
  a non-member file is never created, deleted (unless its entry was never durable and a crash drops it) or grown.
-/
import EmitModel.Lemmas.FileSetSteps

namespace EmitModel.FileSet

/-- How a file that is not a member of the set may change: by a crash (loses unsynced bytes, or vanishes if its
    directory entry was never durable), and by the worker's sync of the directory, which makes its entry durable. -/
def ForeignRel : Option File → Option File → Prop
  | none, none => True
  | none, some _ => False
  | some f, none => f.durable = false
  | some f, some f' => f.synced <+: f'.synced ∧ f'.content <+: f.content ∧ (f.durable = true → f'.durable = true)

theorem ForeignRel.refl (x : Option File) : ForeignRel x x := by
  cases x with
  | none => trivial
  | some f => exact ⟨List.prefix_refl _, List.prefix_refl _, id⟩

theorem ForeignRel.of_eq {x y : Option File} (h : y = x) : ForeignRel x y := by subst h; exact .refl _

theorem ForeignRel.trans : ∀ {x y z : Option File}, ForeignRel x y → ForeignRel y z → ForeignRel x z
  | none, none, _, _, h2 => h2
  | none, some _, _, h1, _ => h1.elim
  | some _, none, none, h1, _ => h1
  | some _, none, some _, _, h2 => h2.elim
  | some f, some g, none, h1, h2 => by
    cases hd : f.durable with
    | false => exact hd
    | true => exact absurd (h1.2.2 hd) (by rw [show g.durable = false from h2]; nofun)
  | some _, some _, some _, h1, h2 => ⟨h1.1.trans h2.1, h2.2.1.trans h1.2.1, fun h => h2.2.2 (h1.2.2 h)⟩

/-- `N`: what the names created in between satisfy (`True`, or being the one name of a batch). -/
def Rel (cfg : Config) (N : List Nat → Prop) (s s' : St) : Prop :=
  (∃ extra, s'.log = s.log ++ extra ∧ (∀ ev ∈ extra, Mem cfg ev.name) ∧ (∀ n, Ev.created n ∈ extra → N n) ∧
    ∀ n f, fsGet s.fs n = some f → f.durable = true →
      Ev.deleted n ∈ extra ∨ ∃ f', fsGet s'.fs n = some f' ∧ f'.durable = true ∧ f.synced <+: f'.synced) ∧
  ∀ n, ¬ Mem cfg n → ForeignRel (fsGet s.fs n) (fsGet s'.fs n)

theorem Rel.refl (cfg : Config) (N : List Nat → Prop) (s : St) : Rel cfg N s s :=
  ⟨⟨[], by simp, by simp, by simp, fun n f h hd => .inr ⟨f, h, hd, List.prefix_refl _⟩⟩, fun n _ => .refl _⟩

theorem Rel.weaken {cfg : Config} {N N' : List Nat → Prop} {s s' : St} (h : Rel cfg N s s') (hN : ∀ n, N n → N' n) :
    Rel cfg N' s s' := by
  obtain ⟨⟨e1, hl1, hm1, hc1, hd1⟩, hf1⟩ := h
  exact ⟨⟨e1, hl1, hm1, fun n hn => hN n (hc1 n hn), hd1⟩, hf1⟩

theorem Rel.trans {cfg : Config} {N : List Nat → Prop} {s s' s'' : St} (h1 : Rel cfg N s s') (h2 : Rel cfg N s' s'') :
    Rel cfg N s s'' := by
  obtain ⟨⟨e1, hl1, hm1, hc1, hd1⟩, hf1⟩ := h1
  obtain ⟨⟨e2, hl2, hm2, hc2, hd2⟩, hf2⟩ := h2
  refine ⟨⟨e1 ++ e2, by rw [hl2, hl1, List.append_assoc], ?_, ?_, ?_⟩, fun n hn => (hf1 n hn).trans (hf2 n hn)⟩
  · intro ev hev
    rcases List.mem_append.mp hev with h | h
    · exact hm1 ev h
    · exact hm2 ev h
  · intro n hn
    rcases List.mem_append.mp hn with h | h
    · exact hc1 n h
    · exact hc2 n h
  · intro n f hget hdur
    rcases hd1 n f hget hdur with h | ⟨f', hget', hdur', hpre⟩
    · exact .inl (List.mem_append_left _ h)
    · rcases hd2 n f' hget' hdur' with h | ⟨f'', hget'', hdur'', hpre'⟩
      · exact .inl (List.mem_append_right _ h)
      · exact .inr ⟨f'', hget'', hdur'', hpre.trans hpre'⟩

section
variable {cfg : Config} {E : List Nat → Prop} {c : Nat} {N : List Nat → Prop}

theorem Rel.of_same_fs {s s' : St} (extra : List Ev) (hlog : s'.log = s.log ++ extra)
    (hm : ∀ ev ∈ extra, Mem cfg ev.name) (hc : ∀ n, Ev.created n ∈ extra → N n) (hfs : s'.fs = s.fs) :
    Rel cfg N s s' :=
  ⟨⟨extra, hlog, hm, hc, fun n f h hd => .inr ⟨f, by rw [hfs]; exact h, hd, List.prefix_refl _⟩⟩,
    fun n _ => .of_eq (by rw [hfs])⟩

theorem Rel.of_one {s s' : St} {n : List Nat} (extra : List Ev) (hmem : Mem cfg n) (hlog : s'.log = s.log ++ extra)
    (hm : ∀ ev ∈ extra, Mem cfg ev.name) (hc : ∀ n, Ev.created n ∈ extra → N n)
    (hne : ∀ m, m ≠ n → fsGet s'.fs m = fsGet s.fs m)
    (hown : ∀ f, fsGet s.fs n = some f → f.durable = true →
      Ev.deleted n ∈ extra ∨ ∃ f', fsGet s'.fs n = some f' ∧ f'.durable = true ∧ f.synced <+: f'.synced) :
    Rel cfg N s s' := by
  refine ⟨⟨extra, hlog, hm, hc, fun m f hget hdur => ?_⟩, fun m hm => .of_eq (hne m fun e => hm (e ▸ hmem))⟩
  by_cases hmn : m = n
  · subst hmn; exact hown f hget hdur
  · exact .inr ⟨f, by rw [hne m hmn]; exact hget, hdur, List.prefix_refl _⟩

theorem Rel.of_append {s s' : St} {n : List Nat} (bytes : List Nat) (hmem : Mem cfg n)
    (hfs : s'.fs = appendBytes s.fs n bytes) (hlog : s'.log = s.log) : Rel cfg N s s' :=
  .of_one [] hmem (by simp [hlog]) (by simp) (by simp) (fun m hmn => by rw [hfs, fsGet_appendBytes_ne _ _ hmn])
    fun f hget hdur => .inr ⟨{ f with unsynced := f.unsynced ++ bytes },
      by rw [hfs]; exact fsGet_appendBytes_same _ hget, hdur, List.prefix_refl _⟩

theorem FsStep.rel {s s' : St} (h : FsStep cfg E c N s s') (hn : NamesNodup s) : Rel cfg N s s' := by
  cases h with
  | idle hfs hlog _ => exact Rel.of_same_fs [] (by simp [hlog]) (by simp) (by simp) hfs
  | crash lose d hfs hlog _ =>
    refine ⟨⟨[], by simp [hlog], by simp, by simp, ?_⟩, ?_⟩
    · intro m f hget hdur
      refine .inr ⟨crashFile lose f, ?_, rfl, ?_⟩
      · rw [hfs, fsGet_crashFs lose d hn, hget]; simp [hdur]
      · simp [crashFile]
    · intro m _
      rw [hfs, fsGet_crashFs lose d hn]
      cases hget : fsGet s.fs m with
      | none => trivial
      | some f =>
        simp only [Option.bind_some]
        split
        · refine ⟨by simp [crashFile], ?_, fun _ => rfl⟩
          rw [crashFile_content]; exact List.take_prefix _ _
        · rename_i hc
          simp only [ForeignRel]
          cases hd : f.durable with
          | false => rfl
          | true => simp [hd] at hc
  | create n hmem hN hnone hfs hlog _ =>
    refine .of_one [.created n] hmem hlog (by simpa [Ev.name] using hmem) (by simpa using hN) (fun m hmn => ?_)
      fun f hget => by rw [hnone] at hget; cases hget
    cases hget : fsGet s.fs m with
    | none => rw [hfs, fsGet_append_of_none _ hget]; simp [fsGet, Ne.symm hmn]
    | some f => rw [hfs, fsGet_append_of_some _ hget]
  | syncParent hfs hlog _ =>
    refine ⟨⟨[], by simp [hlog], by simp, by simp, ?_⟩, ?_⟩
    · intro m f hget _
      exact .inr ⟨f.setDurable, by rw [hfs, fsGet_map _ File.setDurable, hget]; rfl, rfl, List.prefix_refl _⟩
    · intro m _
      rw [hfs, fsGet_map _ File.setDurable]
      cases hget : fsGet s.fs m with
      | none => trivial
      | some f => exact ⟨List.prefix_refl _, List.prefix_refl _, fun _ => rfl⟩
  | opened n hmem hfs hlog _ => exact Rel.of_same_fs [.opened n] hlog (by simpa [Ev.name] using hmem) (by simp) hfs
  | appendSep n hmem hfs hlog _ | appendEvt n e hmem _ _ hfs hlog _ | appendTrunc n p hmem _ _ hfs hlog _ =>
    exact Rel.of_append _ hmem hfs hlog
  | syncAll n f hmem hget0 hfs hlog _ =>
    refine .of_one [] hmem (by simp [hlog]) (by simp) (by simp) (fun m hmn => by rw [hfs, fsGet_fsSet_ne _ _ hmn])
      fun g hget hdur => ?_
    rw [hget0] at hget; cases hget
    exact .inr ⟨f.syncedAll, by rw [hfs, fsGet_fsSet_same], hdur, by simp [File.syncedAll]⟩
  | remove n hmem _ hfs hlog _ =>
    exact .of_one [.deleted n] hmem hlog (by simpa [Ev.name] using hmem) (by simp)
      (fun m hmn => by rw [hfs, fsGet_fsErase_ne _ hmn]) fun _ _ _ => .inl (by simp)

theorem FsSteps.rel {s s' : St} (h : FsSteps cfg E c N s s') (hn : NamesNodup s) : Rel cfg N s s' := by
  induction h with
  | refl => exact Rel.refl cfg N _
  | tail hsteps hstep ih => exact ih.trans (hstep.rel (hsteps.nodup hn))

end

end EmitModel.FileSet
