/-
  Lemmas/OtlpPipe.lean — one signal of the OTLP emitter as a whole (Model/OtlpPipe.lean): every composite execution
  projects onto an execution of the channel, and an invariant relating the channel's bookkeeping to what the
  collector has acknowledged.
-/
import EmitModel.Model.OtlpPipe
import EmitModel.Lemmas.BatcherFrame
import EmitModel.Lemmas.Otlp
import EmitModel.Thm.C12

namespace EmitModel.OtlpPipe
open EmitModel EmitModel.Otlp

/-- Event `x` is in a request the collector recorded and the client took as acknowledged. -/
def Delivered (tr : Transport) (log : List Entry) (x : Int) : Prop :=
  ∃ e ∈ log, ackedBy tr e = true ∧ ∃ ids, e.ids = some ids ∧ x ∈ ids

/-- One run of the send loop, summarised: the collector's log only grows; the requests split into an acknowledged
    prefix — every event of which is delivered — and the remainder handed back (empty on success). -/
theorem send_spec (tr : Transport) : ∀ (reqs : List Request) (net : Net) (res : SendResult) (net' : Net),
    send tr reqs net = (res, net') →
    (∃ new, net'.log = new ++ net.log) ∧ res ≠ .noRetry ∧
    ∃ done rem, reqs = done ++ rem ∧ (res = .ok → rem = []) ∧ (∀ rem', res = .retry rem' → rem' = rem ∧ rem ≠ []) ∧
      ∀ r ∈ done, ∀ ev ∈ r, Delivered tr net'.log ev.id := by
  intro reqs net res net' h
  obtain ⟨done, rem, es, fs, hsplit, hlog, _, hids, hack, hcase⟩ := Otlp.send_spec tr reqs net
  simp only [h] at hlog hcase
  have hdel : ∀ r ∈ done, ∀ ev ∈ r, Delivered tr net'.log ev.id := fun r hr ev hev => by
    obtain ⟨e, he, hid⟩ := mem_ids hids hr
    exact ⟨e, by simp [hlog, he], hack e he, reqIds r, hid, List.mem_map.mpr ⟨ev, hev, rfl⟩⟩
  refine ⟨⟨fs ++ es, by simp [hlog]⟩, ?_⟩
  rcases hcase with ⟨rfl, _, rfl, _⟩ | ⟨r, rest, rfl, rfl, _⟩
  · exact ⟨nofun, done, [], hsplit, fun _ => rfl, nofun, hdel⟩
  · exact ⟨nofun, done, r :: rest, hsplit, nofun, by rintro _ ⟨⟩; exact ⟨rfl, nofun⟩, hdel⟩

theorem dead_of_send {tr : Transport} {reqs : List Request} {net net' : Net} {r : SendResult}
    (h : send tr reqs net = (r, net')) : net'.dead = net.dead := by
  obtain ⟨_, _, _, _, _, _, hdead, _⟩ := Otlp.send_spec tr reqs net
  rwa [h] at hdead

/-- The composite step with what its channel step does to the finalised items, the held batch and the retry counter.
    `giveUp` is every conclusion that ends the batch as failed: `no_retry`, or a retry the channel refuses (`hwhy`, what
    `BInv` rules out); `ho` is there for `step_proj`. -/
inductive Step (cfg : Cfg) (s : St) : Label → St → Prop
  | chan {bl ch'} (hb : Batcher.step cfg.ch s.ch bl = some ch') (hfin : ch'.finalised = s.ch.finalised)
      (hheld : ch'.rx.held = none ∨ ch'.rx.held = s.ch.rx.held ∧ ch'.retryCur = s.ch.retryCur) :
      Step cfg s (.chan bl) { s with ch := ch' }
  | begin {ch' b fw} (hb : Batcher.step cfg.ch s.ch .rxBegin = some ch') (hfin : ch'.finalised = s.ch.finalised)
      (hrx : ch'.rx = .processing b b fw) (hretry : ch'.retryCur = 0) :
      Step cfg s (.chan .rxBegin) { s with ch := ch', cur := some (Chan.ofEvents cfg.limit (b.map cfg.ev)).requests }
  | ok {orig cu ws reqs net' ch'} (hrx : s.ch.rx = .processing orig cu ws) (hcur : s.cur = some reqs)
      (hsend : send cfg.tr reqs s.net = (.ok, net')) (hb : Batcher.step cfg.ch s.ch (.rxOutcome .ok) = some ch')
      (hfin : ch'.finalised = s.ch.finalised ++ orig) (hheld : ch'.rx.held = none) :
      Step cfg s .process { s with ch := ch', net := net', cur := none, okd := s.okd ++ orig }
  | retry {orig cu ws reqs rem net' ch'} (hrx : s.ch.rx = .processing orig cu ws) (hcur : s.cur = some reqs)
      (hsend : send cfg.tr reqs s.net = (.retry rem, net'))
      (hb : Batcher.step cfg.ch s.ch (.rxOutcome (.failRetry (itemsOf rem))) = some ch')
      (hfin : ch'.finalised = s.ch.finalised) (hheld : ch'.rx.held = some (orig, itemsOf rem))
      (hretry : ch'.retryCur = s.ch.retryCur + 1) :
      Step cfg s .process { s with ch := ch', net := net', cur := some rem }
  | giveUp {orig cu ws reqs r net' o ch'} (hrx : s.ch.rx = .processing orig cu ws) (hcur : s.cur = some reqs)
      (hsend : send cfg.tr reqs s.net = (r, net')) (hb : Batcher.step cfg.ch s.ch (.rxOutcome o) = some ch')
      (hfin : ch'.finalised = s.ch.finalised ++ orig) (hheld : ch'.rx.held = none)
      (hwhy : ∀ rem, r = .retry rem → itemsOf rem = [] ∨ cfg.ch.retryMax ≤ s.ch.retryCur)
      (ho : chanLabel cfg s .process = some (.rxOutcome o)) (hr : r ≠ .ok) :
      Step cfg s .process { s with ch := ch', net := net', cur := none, failed := s.failed ++ orig }

theorem step_chan (cfg : Cfg) (s : St) (bl : Batcher.Label) :
    step cfg s (.chan bl) = Batcher.chanStep cfg.ch s.ch (fun ch' => { s with ch := ch' })
      (fun ch' c => { s with ch := ch', cur := some (Chan.ofEvents cfg.limit (c.map cfg.ev)).requests }) bl := by
  cases bl <;> rfl

theorem Step.of_step {cfg : Cfg} {s s' : St} {l : Label} (h : step cfg s l = some s') : Step cfg s l s' := by
  cases l with
  | chan bl =>
    obtain ⟨ch', hb, hfin, ⟨rfl, b, fw, -, hrx, hretry, rfl⟩ | ⟨rfl, hheld⟩⟩ :=
      Batcher.chanStep_some (step_chan cfg s bl ▸ h)
    · exact .begin hb hfin hrx hretry
    · exact .chan hb hfin hheld
  | process =>
    simp only [step] at h
    split at h
    · rename_i orig cu ws reqs hrx hcur
      cases hsend : send cfg.tr reqs s.net with
      | mk r net' =>
        simp only [hsend] at h
        cases r with
        | ok =>
          obtain ⟨ch', hb, rfl⟩ := Option.map_eq_some_iff.mp h
          obtain ⟨_, ho, _⟩ | ⟨hheld, hfin, _⟩ := Batcher.rxOutcome_frame _ _ _ _ hrx hb
          · cases ho
          · exact .ok hrx hcur hsend hb hfin hheld
        | noRetry =>
          obtain ⟨ch', hb, rfl⟩ := Option.map_eq_some_iff.mp h
          obtain ⟨_, ho, _⟩ | ⟨hheld, hfin, _⟩ := Batcher.rxOutcome_frame _ _ _ _ hrx hb
          · cases ho
          · exact .giveUp hrx hcur hsend hb hfin hheld nofun
              (by simp [chanLabel, hrx, hcur, hsend]) nofun
        | retry rem =>
          obtain ⟨ch', hb, rfl⟩ := Option.map_eq_some_iff.mp h
          obtain ⟨_, ho, _, -, hrx', hfin, hretry⟩ | ⟨hh, hfin, hwhy⟩ := Batcher.rxOutcome_frame _ _ _ _ hrx hb
          · cases ho
            simp only [hrx']
            exact .retry hrx hcur hsend hb hfin (hrx' ▸ rfl) hretry
          · split
            · rename_i h1; rw [h1] at hh; cases hh
            · exact .giveUp hrx hcur hsend hb hfin hh (fun _ h => by cases h; exact hwhy _ rfl)
                (by simp [chanLabel, hrx, hcur, hsend]) nofun
    · simp at h

/-- The composite labels that are steps of the receiver: its channel steps and the conclusions of `on_batch`. -/
def Label.isRx : Label → Bool
  | .chan l => l.isRx
  | .process => true

theorem step_proj (cfg : Cfg) (s s' : St) (l : Label) (h : step cfg s l = some s') :
    ∃ bl, chanLabel cfg s l = some bl ∧ Batcher.step cfg.ch s.ch bl = some s'.ch := by
  cases Step.of_step h with
  | chan hb | begin hb => exact ⟨_, rfl, hb⟩
  | ok hrx hcur hsend hb | retry hrx hcur hsend hb => exact ⟨_, by simp [chanLabel, hrx, hcur, hsend], hb⟩
  | giveUp _ _ _ hb _ _ _ ho => exact ⟨_, ho, hb⟩

theorem chanLabel_kind {cfg : Cfg} {s : St} {l : Label} {bl : Batcher.Label} (h : chanLabel cfg s l = some bl) :
    l = .chan bl ∨ (l = .process ∧ ∃ o, bl = .rxOutcome o) := by
  cases l with
  | chan _ => cases h; exact .inl rfl
  | process =>
    simp only [chanLabel] at h
    split at h
    · split at h <;> cases h <;> exact .inr ⟨rfl, _, rfl⟩
    · cases h

theorem accepted_step (cfg : Cfg) (s s' : St) (l : Label) (h : step cfg s l = some s') :
    (∀ x ∈ s.ch.accepted, x ∈ s'.ch.accepted) ∧
    ∀ x ∈ s'.ch.accepted, x ∈ s.ch.accepted ∨ l = .chan (.send x) ∨ l = .chan (.trySend x) := by
  obtain ⟨bl, hl, hb⟩ := step_proj cfg s s' l h
  replace hl := chanLabel_kind hl
  obtain ⟨h1, h2, _⟩ := Batcher.accepted_step cfg.ch s.ch s'.ch bl hb
  refine ⟨h1, fun x hx => (h2 x hx).imp_right fun hx => ?_⟩
  rcases hl with rfl | ⟨_, o, rfl⟩
  · exact hx.imp (congrArg _) (congrArg _)
  · exact hx.elim nofun nofun

theorem run_proj (cfg : Cfg) : ∀ (ls : List Label) (s s' : St), Sched.run (step cfg) s ls = some s' →
    ∃ bls, Sched.run (Batcher.step cfg.ch) s.ch bls = some s'.ch ∧
      Sched.countSel Batcher.Label.isRx bls = Sched.countSel Label.isRx ls := by
  intro ls s s' h
  obtain ⟨bls, hb, hc⟩ := Sched.run_proj (proj := St.ch) (sel' := Batcher.Label.isRx) (sel := Label.isRx)
    (off := fun _ => False) (fun s l s' hs => .inl <| by
      obtain ⟨bl, hl, hb⟩ := step_proj cfg s s' l hs
      obtain rfl | ⟨rfl, o, rfl⟩ := chanLabel_kind hl <;> exact ⟨_, hb, rfl⟩)
    (fun _ _ _ h _ => h) ls s s' h
  exact ⟨bls, hb, hc id⟩

theorem reachable_proj (cfg : Cfg) (net0 : Net) (s : St) (h : Reachable cfg net0 s) :
    Batcher.Reachable cfg.ch s.ch :=
  let ⟨ls, hls⟩ := h
  let ⟨bls, hb, _⟩ := run_proj cfg ls _ s hls
  ⟨bls, hb⟩

def InReqs (reqs : List Request) (x : Nat) : Prop := ∃ r ∈ reqs, ∃ e ∈ r, e.id = (x : Int)

structure PInv (cfg : Cfg) (s : St) : Prop where
  held : ∀ orig cu, s.ch.rx.held = some (orig, cu) →
    ∃ reqs, s.cur = some reqs ∧ ∀ x ∈ orig, Delivered cfg.tr s.net.log x ∨ InReqs reqs x
  fin : ∀ x ∈ s.ch.finalised, x ∈ s.failed ∨ x ∈ s.okd
  okd : ∀ x ∈ s.okd, Delivered cfg.tr s.net.log (x : Int)

theorem send_covers {tr : Transport} {reqs : List Request} {net net' : Net} {r : SendResult}
    (hsend : send tr reqs net = (r, net')) :
    (∀ x, Delivered tr net.log x → Delivered tr net'.log x) ∧
    ∀ orig : List Nat, (∀ x ∈ orig, Delivered tr net.log x ∨ InReqs reqs x) →
      ∀ x ∈ orig, Delivered tr net'.log x ∨ ∃ rem, r = .retry rem ∧ InReqs rem x := by
  obtain ⟨⟨new, hnew⟩, hnr, done, rem, hsplit, hok, hretry, hdel⟩ := send_spec tr reqs net r net' hsend
  have hmono : ∀ x, Delivered tr net.log x → Delivered tr net'.log x := fun x ⟨e, he, h⟩ =>
    ⟨e, hnew ▸ List.mem_append_right _ he, h⟩
  refine ⟨hmono, fun orig hall x hx => ?_⟩
  rcases hall x hx with hd | ⟨r0, hr0, e, he, hid⟩
  · exact .inl (hmono x hd)
  · rw [hsplit] at hr0
    rcases List.mem_append.mp hr0 with hr0 | hr0
    · exact .inl (hid ▸ hdel r0 hr0 e he)
    · cases r with
      | ok => rw [hok rfl] at hr0; cases hr0
      | noRetry => exact absurd rfl hnr
      | retry rem' => exact .inr ⟨rem', rfl, (hretry rem' rfl).1 ▸ ⟨r0, hr0, e, he, hid⟩⟩

theorem pinv_step (cfg : Cfg) (s s' : St) (l : Label) (hi : PInv cfg s) (h : step cfg s l = some s') :
    PInv cfg s' := by
  cases Step.of_step h with
  | chan hb hfin hheld =>
    refine ⟨fun orig cu hh => ?_, by simpa [hfin] using hi.fin, hi.okd⟩
    rcases hheld with h0 | ⟨h0, _⟩
    · rw [h0] at hh; cases hh
    · exact hi.held orig cu (h0 ▸ hh)
  | @begin ch' b fw hb hfin hrx hretry =>
    refine ⟨fun orig cu hh => ⟨_, rfl, fun x hx => .inr ?_⟩, by simpa [hfin] using hi.fin, hi.okd⟩
    simp only [hrx, Batcher.Rx.held, Option.some.injEq, Prod.mk.injEq] at hh
    rw [← hh.1] at hx
    have hmem : cfg.ev x ∈ (Chan.ofEvents cfg.limit (b.map cfg.ev)).requests.reverse.flatten := by
      rw [(C12.grouping_partitions cfg.limit (b.map cfg.ev)).1]; exact List.mem_map.mpr ⟨x, hx, rfl⟩
    obtain ⟨r, hr, her⟩ := List.mem_flatten.mp hmem
    exact ⟨r, List.mem_reverse.mp hr, cfg.ev x, her, rfl⟩
  | @ok orig cu ws reqs net' ch' hrx hcur hsend hb hfin hheld =>
    obtain ⟨hmono, hall⟩ := send_covers hsend
    obtain ⟨reqs0, hr0, hcov⟩ := hi.held orig cu (by rw [hrx]; rfl)
    refine ⟨fun o c hh => (by rw [hheld] at hh; cases hh), fun x hx => ?_, fun x hx => ?_⟩
    · simp only [hfin, List.mem_append] at hx ⊢
      exact hx.elim (fun hx => (hi.fin x hx).imp_right .inl) fun hx => .inr (.inr hx)
    · rcases List.mem_append.mp hx with hx | hx
      · exact hmono _ (hi.okd x hx)
      · rw [hcur] at hr0; cases hr0
        exact (hall orig hcov x hx).elim id fun ⟨_, h, _⟩ => nomatch h
  | @retry orig cu ws reqs rem net' ch' hrx hcur hsend hb hfin hheld =>
    obtain ⟨hmono, hall⟩ := send_covers hsend
    obtain ⟨reqs0, hr0, hcov⟩ := hi.held orig cu (by rw [hrx]; rfl)
    rw [hcur] at hr0; cases hr0
    refine ⟨fun o c hh => ⟨rem, rfl, fun x hx => ?_⟩, by simpa [hfin] using hi.fin, fun x hx => hmono _ (hi.okd x hx)⟩
    simp only [hheld, Option.some.injEq, Prod.mk.injEq] at hh
    rw [← hh.1] at hx
    exact (hall orig hcov x hx).imp_right fun ⟨_, h, hin⟩ => by cases h; exact hin
  | @giveUp orig cu ws reqs r net' o ch' hrx hcur hsend hb hfin hheld =>
    obtain ⟨hmono, _⟩ := send_covers hsend
    refine ⟨fun o c hh => (by rw [hheld] at hh; cases hh), fun x hx => ?_, fun x hx => hmono _ (hi.okd x hx)⟩
    simp only [hfin, List.mem_append] at hx ⊢
    exact hx.elim (fun hx => (hi.fin x hx).imp_left .inl) fun hx => .inl (.inr hx)

theorem pinv_reachable (cfg : Cfg) (net0 : Net) (s : St) (h : Reachable cfg net0 s) : PInv cfg s :=
  Sched.invariant_of_step
    ⟨by intro o cu h; simp [init, Batcher.init, Batcher.Rx.held] at h, by simp [init, Batcher.init], by simp [init]⟩
    (fun s l s' hi hs => pinv_step cfg s s' l hi hs) s h

/-- The retry budget as a potential: the failures the collector still has in store plus the retries the held batch has
    already used never exceed the budget — so no batch is ever given up. -/
structure BInv (cfg : Cfg) (s : St) : Prop where
  alive : s.net.dead = false
  noneFailed : s.failed = []
  nonempty : ∀ reqs, s.cur = some reqs → ∀ r ∈ reqs, r ≠ []
  budget : s.net.pending cfg.tr + (if s.ch.rx.held.isSome then s.ch.retryCur else 0) ≤ cfg.ch.retryMax

theorem itemsOf_ne_nil {reqs : List Request} (hne : reqs ≠ []) (hall : ∀ r ∈ reqs, r ≠ []) : itemsOf reqs ≠ [] := by
  cases reqs with
  | nil => exact absurd rfl hne
  | cons r rs =>
    have hr := hall r (by simp)
    cases r with
    | nil => exact absurd rfl hr
    | cons e es => simp [itemsOf]

theorem binv_step (cfg : Cfg) (s s' : St) (l : Label) (hi : BInv cfg s) (h : step cfg s l = some s') :
    BInv cfg s' := by
  obtain ⟨j1, j2, j3, j4⟩ := hi
  have hpend : s.net.pending cfg.tr ≤ cfg.ch.retryMax := by split at j4 <;> omega
  cases Step.of_step h with
  | chan hb hfin hheld =>
    refine ⟨j1, j2, j3, ?_⟩
    rcases hheld with h0 | ⟨h0, h1⟩
    · simpa [h0] using hpend
    · simpa only [h0, h1] using j4
  | @begin ch' b fw hb hfin hrx hretry =>
    refine ⟨j1, j2, ?_, by simpa [hrx, Batcher.Rx.held, hretry] using hpend⟩
    intro reqs hreqs
    cases hreqs
    exact (C12.grouping_partitions cfg.limit (b.map cfg.ev)).2.2.1
  | @ok orig cu ws reqs net' ch' hrx hcur hsend hb hfin hheld =>
    have hd := dead_of_send hsend
    refine ⟨hd.trans j1, j2, nofun, ?_⟩
    have := (send_pending cfg.tr reqs s.net net' _ j1 hsend).2
    simp only [hheld, Option.isSome_none, Bool.false_eq_true, if_false]
    omega
  | @retry orig cu ws reqs rem net' ch' hrx hcur hsend hb hfin hheld hretry =>
    have hd := dead_of_send hsend
    obtain ⟨_, _, done, rem0, hsplit, _, hr, _⟩ := send_spec cfg.tr reqs s.net _ net' hsend
    obtain ⟨rfl, _⟩ := hr rem rfl
    refine ⟨hd.trans j1, j2, ?_, ?_⟩
    · intro reqs' h r hr
      cases h
      exact j3 reqs hcur r (by rw [hsplit]; exact List.mem_append_right _ hr)
    · have := (send_pending cfg.tr reqs s.net net' _ j1 hsend).1 rem rfl
      simp only [hrx, Batcher.Rx.held, Option.isSome_some, if_true] at j4
      simp only [hheld, Option.isSome_some, if_true, hretry]
      omega
  | @giveUp orig cu ws reqs r net' o ch' hrx hcur hsend hb hfin hheld hwhy _ hr =>
    -- within the budget this does not happen: a failed send hands back a non-empty remainder and has used up one
    -- unit of `Net.pending`
    exfalso
    obtain ⟨_, hnr, done, rem0, hsplit, _, hretry, _⟩ := send_spec cfg.tr reqs s.net r net' hsend
    cases r with
    | ok => exact hr rfl
    | noRetry => exact hnr rfl
    | retry rem =>
      obtain ⟨rfl, hne⟩ := hretry rem rfl
      have := (send_pending cfg.tr reqs s.net net' _ j1 hsend).1 rem rfl
      simp only [hrx, Batcher.Rx.held, Option.isSome_some, if_true] at j4
      rcases hwhy rem rfl with h0 | h0
      · exact itemsOf_ne_nil hne (fun r hr => j3 reqs hcur r (by rw [hsplit]; exact List.mem_append_right _ hr)) h0
      · omega

theorem binv_reachable (cfg : Cfg) (net0 : Net) (hd : net0.dead = false) (hb : net0.pending cfg.tr ≤ cfg.ch.retryMax)
    (s : St) (h : Reachable cfg net0 s) : BInv cfg s :=
  Sched.invariant_of_step
    ⟨hd, rfl, by intro reqs h; simp [init] at h, by simpa [init, Batcher.init, Batcher.Rx.held] using hb⟩
    (fun s l s' hi hs => binv_step cfg s s' l hi hs) s h

end EmitModel.OtlpPipe
