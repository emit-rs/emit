/-
  Lemmas/FileSetWalk.lean — every function of the worker model is a `Walk`, for all fault plans; with the facts
  about its result that the property theorems need.
-/
import EmitModel.Lemmas.FileSetRel

namespace EmitModel.FileSet

def R.st {α : Type} : R α → St
  | .ok _ s => s
  | .err s => s
  | .crash s => s

def Calm (plan : Nat → Fault) : Prop := ∀ i, plan i = .ok ∨ plan i = .err

/-- What a stretch of `on_batch` under `plan` does to the state: a sequence of `FsStep`s that installs no active
    file and, when the plan is calm, leaves the fault flag as it was. -/
structure Walk (cfg : Config) (E : List Nat → Prop) (c : Nat) (N : List Nat → Prop) (plan : Nat → Fault)
    (s s' : St) : Prop where
  steps : FsSteps cfg E c N s s'
  active : s.active = none → s'.active = none
  calm : Calm plan → s'.faulted = s.faulted

section
variable {cfg : Config} {E : List Nat → Prop} {c : Nat} {N : List Nat → Prop} {plan : Nat → Fault}

theorem Walk.refl (s : St) : Walk cfg E c N plan s s := ⟨.refl s, id, fun _ => rfl⟩

theorem Walk.trans {s s' s'' : St} (h1 : Walk cfg E c N plan s s') (h2 : Walk cfg E c N plan s' s'') :
    Walk cfg E c N plan s s'' :=
  ⟨h1.steps.trans h2.steps, fun h => h2.active (h1.active h), fun hc => (h2.calm hc).trans (h1.calm hc)⟩

theorem Walk.step {s s' : St} (h : FsStep cfg E c N s s') (ha : s'.active = s.active) (hf : s'.faulted = s.faulted) :
    Walk cfg E c N plan s s' :=
  ⟨.single h, fun h0 => ha.trans h0, fun _ => hf⟩

theorem Walk.fault {s s' : St} (h : FsSteps cfg E c N s s') (ha : s.active = none → s'.active = none) {i : Nat}
    (h1 : plan i ≠ .ok) (h2 : plan i ≠ .err) : Walk cfg E c N plan s s' :=
  ⟨h, ha, fun hc => ((hc i).elim h1 h2).elim⟩

theorem walk_tick (s : St) : Walk cfg E c N plan s s.tick := .step (.idle rfl rfl id) rfl rfl

theorem simpleOp_walk {α : Type} (s : St) (act : St → R α) (hact : Walk cfg E c N plan s.tick (act s.tick).st) :
    Walk cfg E c N plan s (simpleOp plan s act).st := by
  unfold simpleOp
  split
  · exact (walk_tick s).trans hact
  · exact walk_tick s
  · exact walk_tick s
  · rename_i lose d heq
    exact .fault (.single (.crash lose d rfl rfl rfl)) (fun _ => rfl) (i := s.op) (by simp [heq]) (by simp [heq])

theorem simpleOp_calm {α : Type} (hc : Calm plan) (s : St) (act : St → R α)
    (hact : (act s.tick).st.faulted = false) : (simpleOp plan s act).st.faulted = s.faulted ∨
      (simpleOp plan s act).st.faulted = false := by
  unfold simpleOp
  rcases hc s.op with h | h
  · simp only [h]; exact .inr hact
  · simp only [h]; exact .inl rfl

theorem simpleOp_ok {α : Type} {s s' : St} {act : St → R α} {a : α}
    (h : simpleOp plan s act = .ok a s') : act s.tick = .ok a s' := by
  unfold simpleOp at h
  split at h <;> first | exact h | cases h

theorem createDirAll_walk (s : St) : Walk cfg E c N plan s (createDirAll plan s).st :=
  simpleOp_walk s _ (.refl _)

theorem readDir_walk (s : St) : Walk cfg E c N plan s (readDir plan s).st :=
  simpleOp_walk s _ (.refl _)

theorem flushFile_walk (s : St) : Walk cfg E c N plan s (flushFile plan s).st :=
  simpleOp_walk s _ (.refl _)

theorem flushFile_ok {s s' : St} (h : flushFile plan s = .ok () s') : s' = s.tick := by
  cases simpleOp_ok h
  rfl

theorem fileLen_walk (n : List Nat) (s : St) : Walk cfg E c N plan s (fileLen plan n s).st := by
  refine simpleOp_walk s _ ?_
  split <;> exact .refl _

theorem fileLen_ok {plan : Nat → Fault} {n : List Nat} {s s' : St} {l : Nat} (h : fileLen plan n s = .ok l s') :
    s'.fs = s.fs ∧ s'.faulted = s.faulted := by
  have := simpleOp_ok h
  split at this
  · cases this; exact ⟨rfl, rfl⟩
  · cases this

theorem openNew_walk {n : List Nat} (hm : Mem cfg n) (hN : N n) (s : St) :
    Walk cfg E c N plan s (openNew plan n s).st := by
  refine simpleOp_walk s _ ?_
  split
  · exact .refl _
  · rename_i hnone
    exact .step (.create n hm hN hnone rfl rfl id) rfl rfl

theorem openNew_ok {n : List Nat} {s s' : St} (h : openNew plan n s = .ok () s') :
    fsGet s.fs n = none ∧ s'.fs = s.fs ++ [(n, newFile)] := by
  have := simpleOp_ok h
  split at this
  · cases this
  · rename_i hnone
    cases this
    exact ⟨hnone, rfl⟩

theorem syncParent_walk (s : St) : Walk cfg E c N plan s (syncParent plan s).st :=
  simpleOp_walk s _ (.step (.syncParent rfl rfl id) rfl rfl)

theorem syncParent_ok {s s' : St} (h : syncParent plan s = .ok () s') :
    s'.fs = s.fs.map (fun e => (e.1, e.2.setDurable)) := by
  cases simpleOp_ok h
  rfl

theorem openExisting_walk {n : List Nat} (hm : Mem cfg n) (s : St) :
    Walk cfg E c N plan s (openExisting plan n s).st := by
  refine simpleOp_walk s _ ?_
  split
  · exact .step (.opened n hm rfl rfl id) rfl rfl
  · exact .refl _

theorem openExisting_ok {n : List Nat} {s s' : St} (h : openExisting plan n s = .ok () s') :
    (∃ f, fsGet s.fs n = some f) ∧ s'.fs = s.fs := by
  have := simpleOp_ok h
  split at this
  · rename_i f hget
    cases this
    exact ⟨⟨f, hget⟩, rfl⟩
  · cases this

theorem syncAll_walk {n : List Nat} (hm : Mem cfg n) (s : St) : Walk cfg E c N plan s (syncAll plan n s).st := by
  refine simpleOp_walk s _ ?_
  split
  · rename_i f hget
    exact .step (.syncAll n f hm hget rfl rfl id) rfl rfl
  · exact .refl _

theorem syncAll_eq (plan : Nat → Fault) (n : List Nat) (s : St) :
    syncAll plan n s = simpleOp plan s fun s => .ok () { s with fs := syncFile s.fs n } := by
  unfold syncAll syncFile
  congr 1; funext s
  cases fsGet s.fs n <;> rfl

theorem syncAll_ok {n : List Nat} {s s' : St} (h : syncAll plan n s = .ok () s') :
    s' = { s.tick with fs := syncFile s.fs n } := by
  rw [syncAll_eq] at h
  cases simpleOp_ok h
  rfl

theorem removeFile_walk {n : List Nat} (hm : Mem cfg n) (s : St) :
    Walk cfg E c N plan s (removeFile plan n s).st := by
  refine simpleOp_walk s _ ?_
  split
  · rename_i f hget
    exact .step (.remove n hm (by rw [hget]; simp) rfl rfl id) rfl rfl
  · exact .refl _

/-- `write_all buf` puts some prefix of `buf` and then returns, fails or crashes; so it is a walk as soon as
    putting a prefix is a sequence of steps (a prefix that is neither empty nor all of `buf` sets the flag). -/
theorem writeAll_walk {n buf : List Nat} (s : St)
    (hput : ∀ (k : Nat) (s' : St), s'.fs = appendBytes s.fs n (buf.take k) → s'.log = s.log →
      (s.faulted = true → s'.faulted = true) → (0 < k → k < buf.length → s'.faulted = true) →
      FsSteps cfg E c N s s') :
    Walk cfg E c N plan s (writeAll plan n buf s).st := by
  unfold writeAll
  split
  · exact .refl _
  · split
    · exact ⟨hput buf.length _ (by simp [St.tick, R.st]) rfl id (fun _ h => absurd h (Nat.lt_irrefl _)), id, fun _ => rfl⟩
    · exact walk_tick s
    · rename_i k heq
      exact .fault (hput (k % buf.length) _ rfl rfl (by simp [St.tick, R.st]; exact fun h => .inl h) (by simp [St.tick, R.st]; exact fun h _ => .inr h)) id
        (i := s.op) (by simp [heq]) (by simp [heq])
    · rename_i w lose d heq
      exact .fault
        ((hput (w % (buf.length + 1)) { s with fs := appendBytes s.fs n (buf.take (w % (buf.length + 1))), faulted := true }
          rfl rfl (fun _ => rfl) (fun _ _ => rfl)).tail (.crash lose d rfl rfl rfl))
        (fun _ => rfl) (i := s.op) (by simp [heq]) (by simp [heq])

theorem writeAll_ok {n buf : List Nat} {s s' : St} (h : writeAll plan n buf s = .ok () s') :
    s'.fs = appendBytes s.fs n buf ∧ s'.faulted = s.faulted := by
  unfold writeAll at h
  split at h
  · rename_i hnil
    cases h; subst hnil
    exact ⟨(appendBytes_nil _ _).symm, rfl⟩
  · split at h <;> cases h
    exact ⟨rfl, rfl⟩

theorem writeSep_walk {n : List Nat} (hm : Mem cfg n) (s : St) : Walk cfg E c N plan s (writeAll plan n [c] s).st := by
  refine writeAll_walk s fun k s' hfs hlog hf _ => ?_
  cases k with
  | zero => exact .single (.idle (by rw [hfs]; exact appendBytes_nil _ _) hlog hf)
  | succ k => exact .single (.appendSep n hm (by simpa using hfs) hlog hf)

theorem writeEvt_walk {n e : List Nat} (hm : Mem cfg n) (he : E e) (s : St) (hclean : CleanAt E c s n) :
    Walk cfg E c N plan s (writeAll plan n e s).st := by
  refine writeAll_walk s fun k s' hfs hlog hf ht => ?_
  by_cases hk : k = 0
  · subst hk
    exact .single (.idle (by rw [hfs]; exact appendBytes_nil _ _) hlog hf)
  · by_cases hlt : k < e.length
    · exact .single (.appendTrunc n _ hm (IsTrunc.of_take_event he (by omega) hlt) hclean hfs hlog (ht (by omega) hlt))
    · rw [List.take_of_length_le (by omega)] at hfs
      exact .single (.appendEvt n e hm he hclean hfs hlog hf)

theorem readSet_walk (s : St) : Walk cfg E c N plan s (readSet cfg plan s).st := by
  have w : Walk cfg E c N plan s _ := readDir_walk s
  unfold readSet
  cases h : readDir plan s <;> simp only [h, R.st] at w ⊢ <;> exact w

theorem readSet_mem {s s' : St} {set : List (List Nat)} (h : readSet cfg plan s = .ok set s') :
    ∀ n ∈ set, Mem cfg n := by
  unfold readSet at h
  cases hr : readDir plan s <;> simp only [hr] at h <;> cases h
  · intro n hn
    exact (List.mem_filter.mp (mem_sortDesc.mp hn)).2
  · intro n hn; cases hn

theorem removeAll_walk (vs : List (List Nat)) (hv : ∀ n ∈ vs, Mem cfg n) (s : St) :
    Walk cfg E c N plan s (removeAll plan vs s).st := by
  induction vs generalizing s with
  | nil => exact .refl _
  | cons n ns ih =>
    have w : Walk cfg E c N plan s _ := removeFile_walk (hv n (by simp)) s
    have ih' := fun s => ih (fun m hm => hv m (by simp [hm])) s
    unfold removeAll
    cases h : removeFile plan n s <;> simp only [h, R.st] at w ⊢
    case crash => exact w
    all_goals exact w.trans (ih' _)

theorem victims_mem {keep : Nat} {set : List (List Nat)} (h : ∀ n ∈ set, Mem cfg n) :
    ∀ n ∈ victims keep set, Mem cfg n := by
  intro n hn
  simp only [victims, List.mem_reverse] at hn
  exact h n (List.mem_of_mem_drop hn)

theorem tryOpenReuse_walk (n : List Nat) (s : St) : Walk cfg E c N plan s (tryOpenReuse cfg plan n s).st := by
  unfold tryOpenReuse
  split
  · exact .refl _
  · rename_i ts hts
    have hm : Mem cfg n := by simp [Mem, isMember, hts]
    have w1 : Walk cfg E c N plan s _ := openExisting_walk hm s
    cases h1 : openExisting plan n s <;> simp only [h1, R.st] at w1 ⊢
    case err => exact w1
    case crash => exact w1
    rename_i s1
    have w2 := w1.trans (syncParent_walk s1)
    cases h2 : syncParent plan s1 <;> simp only [h2, R.st] at w2 ⊢
    case err => exact w2
    case crash => exact w2
    rename_i s2
    have w3 := w2.trans (fileLen_walk n s2)
    cases h3 : fileLen plan n s2 <;> simp only [h3, R.st] at w3 ⊢ <;> exact w3

theorem tryOpenReuse_ok {n : List Nat} {s s' : St} {a : Active} (h : tryOpenReuse cfg plan n s = .ok a s') :
    a.name = n ∧ Mem cfg n ∧ a.needsRecovery = true ∧
      ∃ f, fsGet s'.fs n = some f ∧ f.durable = true ∧ a.size = f.content.length := by
  unfold tryOpenReuse at h
  split at h
  · cases h
  · rename_i ts hts
    cases h1 : openExisting plan n s <;> simp only [h1] at h <;> try cases h
    rename_i s1
    obtain ⟨⟨f, hf⟩, hfs1⟩ := openExisting_ok h1
    cases h2 : syncParent plan s1 <;> simp only [h2] at h <;> try cases h
    rename_i s2
    have hfs2 := syncParent_ok h2
    have hget2 : fsGet s2.tick.fs n = some f.setDurable := by
      show fsGet s2.fs n = _
      rw [hfs2, fsGet_map _ File.setDurable, hfs1, hf]; rfl
    cases h3 : fileLen plan n s2 <;> simp only [h3] at h <;> cases h
    have hl := simpleOp_ok h3
    simp only [hget2] at hl
    cases hl
    exact ⟨rfl, by simp [Mem, isMember, hts], rfl, f.setDurable, hget2, rfl, rfl⟩

theorem createFile_walk (now : Parts) (id : Nat) {set : List (List Nat)}
    (hN : N (nameFor cfg.pfx cfg.ext cfg.rollBy now id)) (hset : ∀ n ∈ set, Mem cfg n) (s : St) :
    Walk cfg E c N plan s (createFile cfg plan now id set s).st := by
  unfold createFile
  have w0 : Walk cfg E c N plan s _ := removeAll_walk _ (victims_mem (keep := cfg.maxFiles - 1) hset) s
  cases h0 : removeAll plan (victims (cfg.maxFiles - 1) set) s <;> simp only [h0, R.st] at w0 ⊢
  case err => exact w0
  case crash => exact w0
  rename_i s1
  have hts := memberTs?_nameFor cfg.pfx cfg.ext cfg.rollBy now id
  simp only [hts]
  have w1 := w0.trans (openNew_walk (by simp [Mem, isMember, hts]) hN s1)
  cases h1 : openNew plan (nameFor cfg.pfx cfg.ext cfg.rollBy now id) s1 <;> simp only [h1, R.st] at w1 ⊢
  case err => exact w1
  case crash => exact w1
  rename_i s2
  have w2 := w1.trans (syncParent_walk s2)
  cases h2 : syncParent plan s2 <;> simp only [h2, R.st] at w2 ⊢ <;> exact w2

theorem createFile_ok {now : Parts} {id : Nat} {set : List (List Nat)} {s s' : St} {a : Active}
    (h : createFile cfg plan now id set s = .ok a s') :
    a = { name := nameFor cfg.pfx cfg.ext cfg.rollBy now id, ts := fileTs cfg.rollBy now, needsRecovery := false,
          size := 0 } ∧
      fsGet s'.fs a.name = some { synced := [], unsynced := [], durable := true } := by
  unfold createFile at h
  cases h0 : removeAll plan (victims (cfg.maxFiles - 1) set) s <;> simp only [h0] at h <;> try cases h
  rename_i s1
  simp only [memberTs?_nameFor] at h
  cases h1 : openNew plan (nameFor cfg.pfx cfg.ext cfg.rollBy now id) s1 <;> simp only [h1] at h <;> try cases h
  rename_i s2
  obtain ⟨hnone, hfs2⟩ := openNew_ok h1
  cases h2 : syncParent plan s2 <;> simp only [h2] at h <;> cases h
  have hfs3 := syncParent_ok h2
  refine ⟨rfl, ?_⟩
  rw [hfs3, fsGet_map _ File.setDurable, hfs2, fsGet_append_of_none _ hnone]
  simp [fsGet, newFile, File.setDurable]

/-- What the worker may assume about the file it holds: it is a member of the set, exists with a durable
    directory entry, its recorded size is the real one, and unless flagged for recovery its content ends on a
    record boundary. -/
def ActiveOk (cfg : Config) (E : List Nat → Prop) (c : Nat) (s : St) (a : Active) : Prop :=
  Mem cfg a.name ∧ (∃ f, fsGet s.fs a.name = some f ∧ f.durable = true ∧ a.size = f.content.length) ∧
    (a.needsRecovery = false → CleanAt E c s a.name)

/-- What holds between two calls of the worker under any fault plan: the hypothesis of the C10 and C11 theorems. -/
structure Inv (cfg : Config) (E : List Nat → Prop) (c : Nat) (s : St) : Prop where
  nodup : NamesNodup s
  good : GoodInv cfg E c s
  active : ∀ a, s.active = some a → ActiveOk cfg E c s a

theorem activeOk_of_createFile_ok {now : Parts} {id : Nat} {set : List (List Nat)} {s s' : St}
    {a : Active} (h : createFile cfg plan now id set s = .ok a s') : ActiveOk cfg E c s' a := by
  obtain ⟨ha, hget⟩ := createFile_ok h
  refine ⟨?_, ⟨_, hget, rfl, by subst ha; rfl⟩, ?_⟩
  · subst ha; simp [Mem, isMember, memberTs?_nameFor]
  · intro _ f hf
    rw [hget] at hf; cases hf
    exact .nil

theorem openOrCreate_spec (now : Parts) (id : Nat) (b : Batch) {set : List (List Nat)}
    (hN : N (nameFor cfg.pfx cfg.ext cfg.rollBy now id)) (hset : ∀ n ∈ set, Mem cfg n) (s : St) :
    Walk cfg E c N plan s (openOrCreate cfg plan now id b set s).st ∧
      ∀ a s', openOrCreate cfg plan now id b set s = .ok a s' → ActiveOk cfg E c s' a := by
  have hcreate := fun s1 => createFile_walk (E := E) (c := c) (plan := plan) now id hN hset s1
  unfold openOrCreate
  split
  · exact ⟨hcreate s, fun a s' h => activeOk_of_createFile_ok h⟩
  · rename_i n _
    have w : Walk cfg E c N plan s _ := tryOpenReuse_walk n s
    cases h : tryOpenReuse cfg plan n s <;> simp only [h, R.st] at w ⊢
    case crash => exact ⟨w, fun a s' h => by cases h⟩
    case err s1 => exact ⟨w.trans (hcreate s1), fun a s' h => activeOk_of_createFile_ok h⟩
    rename_i a1 s1
    by_cases hfit : fits cfg now b a1 = true <;> simp only [hfit, if_true]
    · refine ⟨w, fun a s' he => ?_⟩
      cases he
      obtain ⟨hn, hm, hnr, f, hf, hd, hsz⟩ := tryOpenReuse_ok h
      refine ⟨hn ▸ hm, ⟨f, hn ▸ hf, hd, hsz⟩, fun hfalse => ?_⟩
      rw [hnr] at hfalse; cases hfalse
    · exact ⟨w.trans (hcreate s1), fun a s' h => activeOk_of_createFile_ok h⟩

theorem acquire_spec (now : Parts) (id : Nat) (b : Batch) (s : St)
    (hN : N (nameFor cfg.pfx cfg.ext cfg.rollBy now id)) (hact : ∀ a, s.active = some a → ActiveOk cfg E c s a) :
    Walk cfg E c N plan { s with active := none } (acquire cfg plan now id b s).st ∧
      ∀ a s', acquire cfg plan now id b s = .ok a s' → ActiveOk cfg E c s' a := by
  unfold acquire
  cases hs : s.active with
  | some a0 =>
    simp only []
    by_cases hfit : fits cfg now b a0 = true <;> simp only [hfit, if_true, R.st]
    · exact ⟨.refl _, fun a s' he => by cases he; exact hact a0 hs⟩
    · have w1 : Walk cfg E c N plan _ _ := readSet_walk { s with active := none }
      cases h : readSet cfg plan { s with active := none } <;> simp only [h, R.st] at w1 ⊢
      case err => exact ⟨w1, fun a s' h => by cases h⟩
      case crash => exact ⟨w1, fun a s' h => by cases h⟩
      exact ⟨w1.trans (createFile_walk now id hN (readSet_mem h) _), fun a s' h => activeOk_of_createFile_ok h⟩
  | none =>
    simp only []
    have w1 : Walk cfg E c N plan _ _ := createDirAll_walk { s with active := none }
    cases h : createDirAll plan { s with active := none } <;> simp only [h, R.st] at w1 ⊢
    case err => exact ⟨w1, fun a s' h => by cases h⟩
    case crash => exact ⟨w1, fun a s' h => by cases h⟩
    rename_i s1
    have w2 := w1.trans (readSet_walk s1)
    cases h' : readSet cfg plan s1 <;> simp only [h', R.st] at w2 ⊢
    case err => exact ⟨w2, fun a s' h => by cases h⟩
    case crash => exact ⟨w2, fun a s' h => by cases h⟩
    obtain ⟨k1, k2⟩ := openOrCreate_spec (E := E) (c := c) (plan := plan) now id b hN (readSet_mem h') _
    exact ⟨w2.trans k1, k2⟩

/-- `acquire` hands the file back beside a state with `active := none`; the invariant speaks of the state with
    that file installed, which is what the write loop goes on from. -/
theorem acquire_inv {now : Parts} {id : Nat} {b : Batch} {s s1 : St} {a : Active} (hinv : Inv cfg E c s)
    (h : acquire cfg plan now id b s = .ok a s1) : Inv cfg E c { s1 with active := some a } := by
  obtain ⟨w, hok⟩ := acquire_spec (N := fun _ => True) (plan := plan) now id b s trivial hinv.active
  rw [h] at w
  have st := (FsSteps.single (.idle rfl rfl fun h => h)).trans w.steps
  exact ⟨st.nodup hinv.nodup, st.goodInv hinv.nodup hinv.good, fun a' ha => by cases ha; exact hok a s1 h⟩

/-- Either the separator is the single byte `c` (the setting of the C10 theorems), or the event set is
    unconstrained (every byte string counts as an event: the content shape says nothing, which is all the C11
    theorems need, for any separator). -/
def SepOk (cfg : Config) (E : List Nat → Prop) (c : Nat) : Prop := cfg.sep = [c] ∨ ∀ x, E x

theorem clean_of_all (hall : ∀ x, E x) (t : Bool) (x : List Nat) : Clean E c t x := by
  have := Clean.evt (c := c) (t := t) .nil (hall x)
  simpa using this

theorem Good.append_sepOk (hsep : SepOk cfg E c) {t : Bool} {x : List Nat} (h : Good E c t x) :
    Clean E c t (x ++ cfg.sep) := by
  rcases hsep with hsep | hall
  · rw [hsep]; exact h.append_sep
  · exact clean_of_all hall _ _

theorem cleanAt_after_sep (hsep : SepOk cfg E c) {s s1 : St} {n : List Nat} (hm : Mem cfg n)
    (hg : GoodInv cfg E c s) (hfs : s1.fs = appendBytes s.fs n cfg.sep) (hf : s1.faulted = s.faulted) :
    CleanAt E c s1 n := by
  intro f1 hget
  rw [hfs] at hget
  cases hget0 : fsGet s.fs n with
  | none => rw [appendBytes_of_none _ hget0, hget0] at hget; cases hget
  | some f =>
    rw [fsGet_appendBytes_same _ hget0] at hget
    cases hget
    rw [hf]
    simpa [File.content] using (hg n f hget0 hm).append_sepOk hsep

theorem writeEvent_ok {a a' : Active} {e : List Nat} {s s' : St} (h : writeEvent cfg plan a e s = .ok a' s') :
    s'.fs = appendBytes s.fs a.name ((if a.needsRecovery then cfg.sep else []) ++ e) ∧ s'.faulted = s.faulted ∧
      a'.name = a.name ∧ a'.needsRecovery = false ∧
      a'.size = a.size + ((if a.needsRecovery then cfg.sep else []) ++ e).length := by
  unfold writeEvent at h
  by_cases hnr : a.needsRecovery = true
  · simp only [hnr, if_true] at h ⊢
    cases h1 : writeAll plan a.name cfg.sep s <;> simp only [h1] at h <;> try cases h
    rename_i s1
    obtain ⟨e1, e2⟩ := writeAll_ok h1
    cases h2 : writeAll plan a.name e s1 <;> simp only [h2] at h <;> cases h
    obtain ⟨f1, f2⟩ := writeAll_ok h2
    exact ⟨by rw [f1, e1, appendBytes_appendBytes], f2.trans e2, rfl, rfl, by simp [Nat.add_assoc]⟩
  · simp only [hnr, Bool.false_eq_true, if_false, List.nil_append] at h ⊢
    cases h2 : writeAll plan a.name e s <;> simp only [h2] at h <;> cases h
    obtain ⟨f1, f2⟩ := writeAll_ok h2
    exact ⟨f1, f2, rfl, rfl, rfl⟩

theorem writeEvent_walk (hsep : SepOk cfg E c) {a : Active} {e : List Nat} {s : St}
    (he : E e) (hg : GoodInv cfg E c s) (ha : ActiveOk cfg E c s a) :
    Walk cfg E c N plan s (writeEvent cfg plan a e s).st := by
  obtain ⟨hm, _, hclean⟩ := ha
  unfold writeEvent
  by_cases hnr : a.needsRecovery = true
  · simp only [hnr, if_true]
    have w1 : Walk cfg E c N plan s (writeAll plan a.name cfg.sep s).st := by
      rcases hsep with hsep | hall
      · rw [hsep]; exact writeSep_walk hm s
      · exact writeEvt_walk hm (hall _) s (fun f _ => clean_of_all hall _ _)
    cases h : writeAll plan a.name cfg.sep s <;> simp only [h, R.st] at w1 ⊢
    case err => exact w1
    case crash => exact w1
    rename_i s1
    obtain ⟨e1, e2⟩ := writeAll_ok h
    have w2 := w1.trans (writeEvt_walk hm he s1 (cleanAt_after_sep hsep hm hg e1 e2))
    cases h' : writeAll plan a.name e s1 <;> simp only [h', R.st] at w2 ⊢ <;> exact w2
  · simp only [hnr, Bool.false_eq_true, if_false]
    have w2 : Walk cfg E c N plan s _ := writeEvt_walk hm he s (hclean (by simpa using hnr))
    cases h' : writeAll plan a.name e s <;> simp only [h', R.st] at w2 ⊢ <;> exact w2

theorem writeEvent_post (hsep : SepOk cfg E c) {a a' : Active} {e : List Nat} {s s' : St}
    (he : E e) (hg : GoodInv cfg E c s) (ha : ActiveOk cfg E c s a)
    (h : writeEvent cfg plan a e s = .ok a' s') : ActiveOk cfg E c s' a' := by
  obtain ⟨hfs, hf, hn, hnr, hsize⟩ := writeEvent_ok h
  obtain ⟨hm, ⟨f, hget, hd, hsz⟩, hclean⟩ := ha
  unfold ActiveOk
  rw [hn]
  refine ⟨hm, ⟨{ f with unsynced := f.unsynced ++ ((if a.needsRecovery = true then cfg.sep else []) ++ e) },
    by rw [hfs]; exact fsGet_appendBytes_same _ hget, hd, ?_⟩, ?_⟩
  · rw [hsize, hsz]; simp [File.content, Nat.add_assoc]
  intro _ f' hget'
  rw [hfs, fsGet_appendBytes_same _ hget] at hget'
  cases hget'
  rw [hf]
  by_cases hrec : a.needsRecovery = true
  · have := Clean.evt ((hg a.name f hget hm).append_sepOk hsep) he
    simpa [File.content, hrec] using this
  · have := Clean.evt (hclean (by simpa using hrec) f hget) he
    simpa [File.content, hrec] using this

theorem writeEvents_cases (evs : List (List Nat)) (a : Active) (b : Batch) (s : St) :
    (∃ a' s', writeEvents cfg plan a b s evs = (.ok, some a', s')) ∨
    (∃ pre e post a1 s1 s', evs = pre ++ e :: post ∧ writeEvents cfg plan a b s pre = (.ok, some a1, s1) ∧
      writeEvent cfg plan a1 e s1 = .err s' ∧
      writeEvents cfg plan a b s evs = (.retry (pre.foldl Batch.advance b), none, s')) ∨
    ∃ s', writeEvents cfg plan a b s evs = (.crashed, none, s') := by
  fun_induction writeEvents cfg plan a b s evs with
  | case1 a b s => exact .inl ⟨a, s, rfl⟩
  | case2 a b s e rest s1 h1 => exact .inr (.inl ⟨[], e, rest, a, s, s1, rfl, rfl, h1, rfl⟩)
  | case3 a b s e rest s1 h1 => exact .inr (.inr ⟨s1, rfl⟩)
  | case4 a b s e rest a1 s1 h1 ih =>
    rcases ih with h | ⟨pre, e', post, a2, s2, s', k1, k2, k3, k4⟩ | h
    · exact .inl h
    · exact .inr (.inl ⟨e :: pre, e', post, a2, s2, s', by rw [k1]; rfl, by simp only [writeEvents, h1]; exact k2,
        k3, k4⟩)
    · exact .inr (.inr h)

/-- The bytes the write loop appends when every write succeeds; the flag: the file needs recovery, so the
    separator goes first. -/
def laid (sep : List Nat) : Bool → List (List Nat) → List Nat
  | _, [] => []
  | nr, e :: rest => (if nr then sep else []) ++ e ++ laid sep false rest

theorem writeEvents_ok (evs : List (List Nat)) {a a' : Active} {b : Batch} {s s' : St}
    (h : writeEvents cfg plan a b s evs = (.ok, some a', s')) :
    s'.fs = appendBytes s.fs a.name (laid cfg.sep a.needsRecovery evs) ∧ a'.name = a.name := by
  fun_induction writeEvents cfg plan a b s evs with
  | case1 a b s => cases h; exact ⟨(appendBytes_nil _ _).symm, rfl⟩
  | case2 | case3 => cases h
  | case4 a b s e rest a1 s1 h1 ih =>
    obtain ⟨e1, _, e4, e5, _⟩ := writeEvent_ok h1
    obtain ⟨r2, r5⟩ := ih h
    refine ⟨?_, by rw [r5, e4]⟩
    rw [r2, e1, e4, e5, appendBytes_appendBytes]
    simp [laid]

theorem writeEvents_spec (hsep : SepOk cfg E c) (evs : List (List Nat)) (a : Active) (b : Batch) (s : St)
    (hE : ∀ e ∈ evs, E e) (hn : NamesNodup s) (hg : GoodInv cfg E c s) (ha : ActiveOk cfg E c s a) :
    Walk cfg E c N plan s (writeEvents cfg plan a b s evs).2.2 ∧
      (∀ a', (writeEvents cfg plan a b s evs).2.1 = some a' →
        ActiveOk cfg E c (writeEvents cfg plan a b s evs).2.2 a') := by
  fun_induction writeEvents cfg plan a b s evs with
  | case1 a b s => exact ⟨.refl _, fun a' h => by cases h; exact ha⟩
  | case2 a b s e rest s1 h1 | case3 a b s e rest s1 h1 =>
    have w : Walk cfg E c N plan s _ := writeEvent_walk hsep (hE e (List.mem_cons_self ..)) hg ha
    rw [h1] at w
    exact ⟨w, nofun⟩
  | case4 a b s e rest a1 s1 h1 ih =>
    have he : E e := hE e (List.mem_cons_self ..)
    have w : Walk cfg E c N plan s _ := writeEvent_walk hsep he hg ha
    rw [h1] at w
    obtain ⟨k1, k2⟩ := ih (fun x hx => hE x (List.mem_cons_of_mem _ hx)) (w.steps.nodup hn) (w.steps.goodInv hn hg)
      (writeEvent_post hsep he hg ha h1)
    exact ⟨w.trans k1, k2⟩

theorem syncWritten_walk {n : List Nat} (hm : Mem cfg n) (b b' : Batch) (s : St) :
    Walk cfg E c N plan s (syncWritten plan n b b' s).2 := by
  unfold syncWritten
  split
  · have w1 : Walk cfg E c N plan s _ := flushFile_walk s
    cases hf : flushFile plan s <;> simp only [hf, R.st] at w1 ⊢
    case err => exact w1
    case crash => exact w1
    rename_i s1
    have w2 := w1.trans (syncAll_walk hm s1)
    cases hy : syncAll plan n s1 <;> simp only [hy, R.st] at w2 ⊢ <;> exact w2
  · exact .refl _

theorem activeOk_after_sync {s s' : St} {a : Active} (hfs : s'.fs = syncFile s.fs a.name)
    (hf : s'.faulted = s.faulted) (h : ActiveOk cfg E c s a) : ActiveOk cfg E c s' a := by
  obtain ⟨hm, ⟨f, hget, hd, hsz⟩, hclean⟩ := h
  have hget' : fsGet s'.fs a.name = some f.syncedAll := by rw [hfs, fsGet_syncFile_same, hget]; rfl
  refine ⟨hm, ⟨f.syncedAll, hget', hd, by rw [hsz]; simp [File.content, File.syncedAll]⟩, fun hnr f' hf' => ?_⟩
  rw [hget'] at hf'
  cases hf'
  rw [hf]
  simpa [File.content, File.syncedAll] using hclean hnr f hget

structure BatchSpec (cfg : Config) (E : List Nat → Prop) (c : Nat) (N : List Nat → Prop) (plan : Nat → Fault)
    (s : St) (r : Res × St) : Prop where
  steps : FsSteps cfg E c N s r.2
  calm : Calm plan → r.2.faulted = s.faulted
  dropped : r.1 ≠ .ok → r.2.active = none
  held : ∀ a, r.2.active = some a → ActiveOk cfg E c r.2 a

theorem onBatch_spec (hsep : SepOk cfg E c) (plan : Nat → Fault) (now : Parts) (id : Nat) (b : Batch) (s : St)
    (hN : N (nameFor cfg.pfx cfg.ext cfg.rollBy now id)) (hE : ∀ e ∈ b.rest, E e) (hinv : Inv cfg E c s) :
    BatchSpec cfg E c N plan s (onBatch cfg plan now id b s) := by
  have h0 : FsSteps cfg E c N s { s with active := none } := .single (.idle rfl rfl fun h => h)
  -- every path but the acknowledged one is a walk from the state without active file
  have fail : ∀ (r : Res) (s' : St), Walk cfg E c N plan { s with active := none } s' →
      BatchSpec cfg E c N plan s (r, s') := fun r s' w =>
    ⟨h0.trans w.steps, w.calm, fun _ => w.active rfl, fun a ha => by rw [w.active rfl] at ha; cases ha⟩
  obtain ⟨wa, _⟩ := acquire_spec (E := E) (c := c) (N := N) (plan := plan) now id b s hN hinv.active
  unfold onBatch
  cases h : acquire cfg plan now id b s <;> simp only [h, R.st] at wa ⊢
  case err => exact fail _ _ wa
  case crash => exact fail _ _ wa
  rename_i a s1
  have hinv1 := acquire_inv hinv h
  have hok := hinv1.active a rfl
  obtain ⟨w1, w3⟩ := writeEvents_spec (N := N) (plan := plan) hsep b.rest a b s1 hE hinv1.nodup hinv1.good hok
  replace w1 := wa.trans w1
  rcases writeEvents_cases b.rest a b s1 with ⟨a', s2, hw⟩ | ⟨_, _, _, _, _, s2, _, _, _, hw⟩ | ⟨s2, hw⟩ <;>
    rw [hw] at w1 w3 ⊢ <;> simp only at w1 w3 ⊢
  · have hok' := w3 a' rfl
    have w2 := w1.trans (flushFile_walk s2)
    cases hf : flushFile plan s2 <;> simp only [hf, R.st] at w2 ⊢
    case err => exact fail _ _ w2
    case crash => exact fail _ _ w2
    cases flushFile_ok hf
    have w4 := w2.trans (syncAll_walk hok'.1 s2.tick)
    cases hy : syncAll plan a'.name s2.tick <;> simp only [hy, R.st] at w4 ⊢
    case err => exact fail _ _ w4
    case crash => exact fail _ _ w4
    cases syncAll_ok hy
    exact ⟨h0.trans w4.steps |>.tail (.idle rfl rfl fun h => h), w4.calm, fun h => absurd rfl h,
      fun a ha => by cases ha; exact activeOk_after_sync (s := s2) rfl rfl hok'⟩
  · exact fail _ _ (w1.trans (syncWritten_walk hok.1 b _ s2))
  · exact fail _ _ w1

theorem onBatch_inv (hsep : SepOk cfg E c) (plan : Nat → Fault) (now : Parts) (id : Nat) (b : Batch) (s : St)
    (hE : ∀ e ∈ b.rest, E e) (hinv : Inv cfg E c s) : Inv cfg E c (onBatch cfg plan now id b s).2 := by
  have h := onBatch_spec (N := fun _ => True) hsep plan now id b s trivial hE hinv
  exact ⟨h.steps.nodup hinv.nodup, h.steps.goodInv hinv.nodup hinv.good, h.held⟩

theorem onBatch_rel (hsep : SepOk cfg E c) (plan : Nat → Fault) (now : Parts) (id : Nat) (b : Batch) (s : St)
    (hN : N (nameFor cfg.pfx cfg.ext cfg.rollBy now id)) (hE : ∀ e ∈ b.rest, E e) (hinv : Inv cfg E c s) :
    Rel cfg N s (onBatch cfg plan now id b s).2 :=
  (onBatch_spec hsep plan now id b s hN hE hinv).steps.rel hinv.nodup

end
end EmitModel.FileSet
