/-
  Lemmas/FileSetFs.lean — the association-list filesystem of Model/FileSet.lean: names and lookups after each
  update, after a crash and after a sync.
-/
import EmitModel.Model.FileSet
import EmitModel.Base.Assoc

namespace EmitModel.FileSet

def names (fs : List (List Nat × File)) : List (List Nat) := fs.map (·.1)

/-- The model is import-free and has its own first-wins lookup; it is `Assoc.lookupFirst`, keys `names`. -/
theorem fsGet_eq_lookupFirst (fs : List (List Nat × File)) (n : List Nat) : fsGet fs n = Assoc.lookupFirst n fs := by
  induction fs with
  | nil => rfl
  | cons e rest ih => rw [fsGet, ih]; rfl

theorem fsGet_eq_none_iff {fs : List (List Nat × File)} {n : List Nat} : fsGet fs n = none ↔ n ∉ names fs := by
  rw [fsGet_eq_lookupFirst]; exact Assoc.lookupFirst_eq_none_iff n fs

theorem mem_names_of_fsGet {fs : List (List Nat × File)} {n : List Nat} {f : File} (h : fsGet fs n = some f) :
    n ∈ names fs :=
  (Assoc.lookupFirst_isSome_iff n fs).1 (by rw [← fsGet_eq_lookupFirst, h]; rfl)

theorem fsGet_fsSet_same (fs : List (List Nat × File)) (n : List Nat) (f : File) : fsGet (fsSet fs n f) n = some f := by
  fun_induction fsSet fs n f with
  | case1 => simp [fsGet]
  | case2 => simp [fsGet]
  | case3 k g rest hk ih => simp [fsGet, hk, ih]

theorem fsGet_fsSet_ne (fs : List (List Nat × File)) {n m : List Nat} (f : File) (h : m ≠ n) :
    fsGet (fsSet fs n f) m = fsGet fs m := by
  fun_induction fsSet fs n f with
  | case1 => simp [fsGet, h.symm]
  | case2 => simp [fsGet, h.symm]
  | case3 k g rest hk ih => simp [fsGet, ih]

theorem names_fsSet_of_mem {fs : List (List Nat × File)} {n : List Nat} (f : File) (h : n ∈ names fs) :
    names (fsSet fs n f) = names fs := by
  fun_induction fsSet fs n f with
  | case1 => simp [names] at h
  | case2 => rfl
  | case3 k g rest hk ih =>
    have : n ∈ names rest := by simpa [names, Ne.symm hk] using h
    simp only [names, List.map_cons] at ih ⊢
    rw [ih this]

theorem fsSet_self {fs : List (List Nat × File)} {n : List Nat} {f : File} (h : fsGet fs n = some f) :
    fsSet fs n f = fs := by
  fun_induction fsSet fs n f with
  | case1 => simp [fsGet] at h
  | case2 g rest => simp [fsGet] at h ⊢; exact h.symm
  | case3 k g rest hk ih => simp [fsGet, hk] at h ⊢; exact ih h

theorem fsGet_fsErase_same (fs : List (List Nat × File)) (n : List Nat) : fsGet (fsErase fs n) n = none := by
  rw [fsGet_eq_none_iff]; simp [names, fsErase]

theorem fsGet_fsErase_ne (fs : List (List Nat × File)) {n m : List Nat} (h : m ≠ n) :
    fsGet (fsErase fs n) m = fsGet fs m := by
  fun_induction fsGet fs m with
  | case1 => rfl
  | case2 f rest => simp [fsErase, fsGet, h]
  | case3 k f rest hk ih =>
    simp only [fsErase, List.filter_cons] at ih ⊢
    split
    · rw [fsGet, if_neg hk, ih]
    · exact ih

theorem names_fsErase (fs : List (List Nat × File)) (n : List Nat) :
    names (fsErase fs n) = (names fs).filter fun m => decide (m ≠ n) := by
  simp [names, fsErase, List.filter_map]; rfl

theorem fsErase_of_none {fs : List (List Nat × File)} {n : List Nat} (h : fsGet fs n = none) : fsErase fs n = fs := by
  have hn := fsGet_eq_none_iff.mp h
  unfold fsErase
  apply List.filter_eq_self.mpr
  intro e he
  simp only [ne_eq, decide_eq_true_eq]
  intro heq
  exact hn (by simp only [names, List.mem_map]; exact ⟨e, he, heq⟩)

theorem names_foldl_fsErase (vs : List (List Nat)) :
    ∀ (fs : List (List Nat × File)), names (vs.foldl fsErase fs) = (names fs).filter fun m => decide (m ∉ vs) := by
  induction vs with
  | nil =>
    intro fs
    simp only [List.foldl_nil, List.not_mem_nil, not_false_eq_true, decide_true]
    exact (List.filter_eq_self.mpr (fun _ _ => rfl)).symm
  | cons n ns ih =>
    intro fs
    simp only [List.foldl_cons]
    rw [ih, names_fsErase, List.filter_filter]
    congr 1
    funext m
    simp only [List.mem_cons, not_or, ne_eq]
    by_cases h1 : m = n <;> by_cases h2 : m ∈ ns <;> simp [h1, h2]

theorem fsGet_foldl_fsErase_none (vs : List (List Nat)) :
    ∀ {fs : List (List Nat × File)} {n : List Nat}, fsGet fs n = none → fsGet (vs.foldl fsErase fs) n = none := by
  induction vs with
  | nil => intro fs n h; exact h
  | cons v vs ih =>
    intro fs n h
    simp only [List.foldl_cons]
    apply ih
    by_cases hv : n = v
    · subst hv; exact fsGet_fsErase_same _ _
    · rw [fsGet_fsErase_ne _ hv]; exact h

theorem fsGet_append (fs l : List (List Nat × File)) (n : List Nat) :
    fsGet (fs ++ l) n = (fsGet fs n).or (fsGet l n) := by
  simp only [fsGet_eq_lookupFirst]; exact Assoc.lookupFirst_append n fs l

theorem fsGet_append_of_some {fs : List (List Nat × File)} {n : List Nat} {f : File} (l : List (List Nat × File))
    (h : fsGet fs n = some f) : fsGet (fs ++ l) n = some f := by
  rw [fsGet_append, h]; rfl

theorem fsGet_append_of_none {fs : List (List Nat × File)} {n : List Nat} (l : List (List Nat × File))
    (h : fsGet fs n = none) : fsGet (fs ++ l) n = fsGet l n := by
  rw [fsGet_append, h]; rfl

theorem fsGet_map (fs : List (List Nat × File)) (g : File → File) (n : List Nat) :
    fsGet (fs.map fun e => (e.1, g e.2)) n = (fsGet fs n).map g := by
  fun_induction fsGet fs n with
  | case1 => rfl
  | case2 => simp [fsGet]
  | case3 k f rest hk ih => simp [fsGet, hk, ih]

theorem names_map (fs : List (List Nat × File)) (g : File → File) :
    names (fs.map fun e => (e.1, g e.2)) = names fs := by
  simp [names]

theorem fsGet_filter_of_nodup {fs : List (List Nat × File)} (p : File → Bool) (hnd : (names fs).Nodup) (n : List Nat) :
    fsGet (fs.filter fun e => p e.2) n = (fsGet fs n).bind fun f => if p f then some f else none := by
  fun_induction fsGet fs n with
  | case1 => rfl
  | case2 f rest =>
    have hn : n ∉ names rest := (List.nodup_cons.1 hnd).1
    simp only [List.filter_cons, Option.bind_some]
    split
    · simp [fsGet]
    · -- the entry is dropped, and by `hnd` there is no second one
      exact fsGet_eq_none_iff.2 fun hm => hn ((List.filter_sublist.map _).subset hm)
  | case3 k f rest hk ih =>
    have ih := ih (List.nodup_cons.1 hnd).2
    simp only [List.filter_cons]
    split
    · rw [fsGet, if_neg hk, ih]
    · exact ih

theorem fsGet_crashFs {fs : List (List Nat × File)} (lose : List Nat) (dropNew : Bool) (hnd : (names fs).Nodup)
    (n : List Nat) :
    fsGet (crashFs lose dropNew fs) n =
      (fsGet fs n).bind fun f => if f.durable || !dropNew then some (crashFile lose f) else none := by
  unfold crashFs
  rw [fsGet_map, fsGet_filter_of_nodup (fun f => f.durable || !dropNew) hnd]
  cases fsGet fs n with
  | none => rfl
  | some f => by_cases h : (f.durable || !dropNew) = true <;> simp

theorem names_crashFs_sublist (lose : List Nat) (dropNew : Bool) (fs : List (List Nat × File)) :
    (names (crashFs lose dropNew fs)).Sublist (names fs) := by
  unfold crashFs
  rw [names_map]
  exact List.Sublist.map _ List.filter_sublist

theorem crashFile_content (lose : List Nat) (f : File) :
    (crashFile lose f).content = f.content.take (f.synced.length + (f.unsynced.length - lossOf lose f.unsynced.length)) := by
  simp only [crashFile, File.content, List.take_append, List.append_nil]
  rw [List.take_of_length_le (Nat.le_add_right _ _), Nat.add_sub_cancel_left]

theorem fsGet_appendBytes_same {fs : List (List Nat × File)} {n : List Nat} {f : File} (bytes : List Nat)
    (h : fsGet fs n = some f) :
    fsGet (appendBytes fs n bytes) n = some { f with unsynced := f.unsynced ++ bytes } := by
  simp [appendBytes, h, fsGet_fsSet_same]

theorem fsGet_appendBytes_ne (fs : List (List Nat × File)) {n m : List Nat} (bytes : List Nat) (h : m ≠ n) :
    fsGet (appendBytes fs n bytes) m = fsGet fs m := by
  unfold appendBytes
  cases hg : fsGet fs n with
  | none => rfl
  | some f => simp [fsGet_fsSet_ne _ _ h]

theorem appendBytes_of_none {fs : List (List Nat × File)} {n : List Nat} (bytes : List Nat)
    (h : fsGet fs n = none) : appendBytes fs n bytes = fs := by
  simp [appendBytes, h]

theorem appendBytes_nil (fs : List (List Nat × File)) (n : List Nat) : appendBytes fs n [] = fs := by
  unfold appendBytes
  cases hg : fsGet fs n with
  | none => rfl
  | some f => simp; exact fsSet_self hg

theorem names_appendBytes (fs : List (List Nat × File)) (n : List Nat) (bytes : List Nat) :
    names (appendBytes fs n bytes) = names fs := by
  unfold appendBytes
  cases hg : fsGet fs n with
  | none => rfl
  | some f => simp; exact names_fsSet_of_mem _ (mem_names_of_fsGet hg)

theorem appendBytes_appendBytes (fs : List (List Nat × File)) (n : List Nat) (a b : List Nat) :
    appendBytes (appendBytes fs n a) n b = appendBytes fs n (a ++ b) := by
  cases hg : fsGet fs n with
  | none => simp [appendBytes_of_none, hg]
  | some f =>
    simp only [appendBytes, hg, fsGet_fsSet_same]
    have (fs : List (List Nat × File)) (x y : File) : fsSet (fsSet fs n x) n y = fsSet fs n y := by
      fun_induction fsSet fs n x with
      | case1 => simp [fsSet]
      | case2 => simp [fsSet]
      | case3 k g rest hk ih => simp [fsSet, hk, ih]
    simp [this]

/-- The filesystem after `sync_all` on `n`: the file's unsynced bytes become synced (no such file: no change). -/
def syncFile (fs : List (List Nat × File)) (n : List Nat) : List (List Nat × File) :=
  match fsGet fs n with
  | some f => fsSet fs n f.syncedAll
  | none => fs

theorem fsGet_syncFile_same (fs : List (List Nat × File)) (n : List Nat) :
    fsGet (syncFile fs n) n = (fsGet fs n).map File.syncedAll := by
  unfold syncFile
  split <;> rename_i h
  · rw [fsGet_fsSet_same, h]; rfl
  · rw [h]; rfl

theorem fsGet_syncFile_ne (fs : List (List Nat × File)) {n m : List Nat} (h : m ≠ n) :
    fsGet (syncFile fs n) m = fsGet fs m := by
  unfold syncFile
  split
  · exact fsGet_fsSet_ne _ _ h
  · rfl

theorem names_syncFile (fs : List (List Nat × File)) (n : List Nat) : names (syncFile fs n) = names fs := by
  unfold syncFile
  split <;> rename_i h
  · exact names_fsSet_of_mem _ (mem_names_of_fsGet h)
  · rfl

end EmitModel.FileSet
