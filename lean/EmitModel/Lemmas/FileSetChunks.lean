/-
  Lemmas/FileSetChunks.lean — the shape of file contents (DESIGN Appendix A.3, as a language of byte strings):

    Clean ::= ε | Clean · event | Clean · sep | Clean · trunc · sep          (ends on a record boundary)
    Good  ::= Clean | Clean · trunc                                          (may end in a torn event)

  `event` ranges over a set `E` of event buffers, `trunc` over non-empty strict prefixes of members of `E`, and
  `trunc` pieces are allowed only when the flag `t` (an interrupting fault has happened) is set.
-/
import EmitModel.Lemmas.FileSetNames

namespace EmitModel.FileSet

section
variable (E : List Nat → Prop) (c : Nat)

def IsTrunc (p : List Nat) : Prop := p ≠ [] ∧ ∃ e, E e ∧ p <+: e ∧ p.length < e.length

inductive Clean (t : Bool) : List Nat → Prop
  | nil : Clean t []
  | evt {x e : List Nat} : Clean t x → E e → Clean t (x ++ e)
  | sep {x : List Nat} : Clean t x → Clean t (x ++ [c])
  | trunc {x p : List Nat} : Clean t x → t = true → IsTrunc E p → Clean t (x ++ p ++ [c])

def Good (t : Bool) (x : List Nat) : Prop :=
  Clean E c t x ∨ (t = true ∧ ∃ x0 p, Clean E c t x0 ∧ IsTrunc E p ∧ x = x0 ++ p)

variable {E c}

theorem Clean.mono {t t' : Bool} {x : List Nat} (h : Clean E c t x) (ht : t = true → t' = true) :
    Clean E c t' x := by
  cases t with
  | false =>
    induction h with
    | nil => exact .nil
    | evt _ he ih => exact .evt ih he
    | sep _ ih => exact .sep ih
    | trunc _ ht' _ _ => cases ht'
  | true => rw [ht rfl]; exact h

theorem Clean.to_true {t : Bool} {x : List Nat} (h : Clean E c t x) : Clean E c true x := h.mono fun _ => rfl

theorem Good.mono {t t' : Bool} {x : List Nat} (h : Good E c t x) (ht : t = true → t' = true) :
    Good E c t' x := by
  rcases h with h | ⟨htt, x0, p, h0, hp, rfl⟩
  · exact .inl (h.mono ht)
  · exact .inr ⟨ht htt, x0, p, h0.mono ht, hp, rfl⟩

theorem Clean.good {t : Bool} {x : List Nat} (h : Clean E c t x) : Good E c t x := .inl h

theorem Good.nil {t : Bool} : Good E c t [] := .inl .nil

theorem Good.append_sep {t : Bool} {x : List Nat} (h : Good E c t x) : Clean E c t (x ++ [c]) := by
  rcases h with h | ⟨htt, x0, p, h0, hp, rfl⟩
  · exact .sep h
  · exact .trunc h0 htt hp

/-- A torn write of an event after clean content. -/
theorem Clean.append_trunc {t : Bool} {x p : List Nat} (h : Clean E c t x) (ht : t = true) (hp : IsTrunc E p) :
    Good E c t (x ++ p) := .inr ⟨ht, x, p, h, hp, rfl⟩

theorem IsTrunc.take {p : List Nat} (hp : IsTrunc E p) {k : Nat} (hk : 0 < k) : IsTrunc E (p.take k) := by
  obtain ⟨hne, e, he, hpre, hlen⟩ := hp
  refine ⟨fun h => ?_, e, he, (List.take_prefix k p).trans hpre, by rw [List.length_take]; omega⟩
  rcases List.take_eq_nil_iff.1 h with h | h
  · omega
  · exact hne h

theorem IsTrunc.of_take_event {e : List Nat} (he : E e) {k : Nat} (hk : 0 < k) (hlt : k < e.length) :
    IsTrunc E (e.take k) := by
  refine ⟨fun h => ?_, e, he, List.take_prefix k e, by rw [List.length_take]; omega⟩
  rcases List.take_eq_nil_iff.1 h with h | h
  · omega
  · rw [h] at hlt; cases hlt

/-- Appending a prefix of an event after clean content (a torn or complete write). -/
theorem Clean.append_take {t : Bool} {x e : List Nat} (h : Clean E c t x) (he : E e) (k : Nat)
    (ht : 0 < k → k < e.length → t = true) : Good E c t (x ++ e.take k) := by
  by_cases hk : k = 0
  · subst hk; simpa using h.good
  · by_cases hlt : k < e.length
    · exact h.append_trunc (ht (by omega) hlt) (IsTrunc.of_take_event he (by omega) hlt)
    · rw [List.take_of_length_le (by omega)]; exact (Clean.evt h he).good

theorem good_take_append {t : Bool} {x y : List Nat} (hx : ∀ m, Good E c t (x.take m))
    (hy : ∀ k, 0 < k → Good E c t (x ++ y.take k)) (m : Nat) : Good E c t ((x ++ y).take m) := by
  rw [List.take_append]
  by_cases hm : m ≤ x.length
  · have : m - x.length = 0 := by omega
    rw [this]; simpa using hx m
  · rw [List.take_of_length_le (by omega)]; exact hy _ (by omega)

/-- Losing a suffix (a crash) leaves good content good. -/
theorem Clean.take {x : List Nat} (h : Clean E c true x) (m : Nat) : Good E c true (x.take m) := by
  induction h generalizing m with
  | nil => simpa using Good.nil
  | evt hx he ih => exact good_take_append ih (fun k _ => hx.append_take he k (fun _ _ => rfl)) m
  | sep hx ih =>
    refine good_take_append ih (fun k hk => ?_) m
    rw [List.take_of_length_le (Nat.succ_le_of_lt hk)]
    exact (Clean.sep hx).good
  | trunc hx _ hp ih =>
    refine good_take_append (good_take_append ih fun k hk => hx.append_trunc rfl (hp.take hk)) (fun k hk => ?_) m
    rw [List.take_of_length_le (Nat.succ_le_of_lt hk)]
    exact (Clean.trunc hx rfl hp).good

theorem Good.take {t : Bool} {x : List Nat} (h : Good E c t x) (m : Nat) : Good E c true (x.take m) := by
  rcases h with h | ⟨_, x0, p, h0, hp, rfl⟩
  · exact h.to_true.take m
  · exact good_take_append h0.to_true.take (fun k hk => h0.to_true.append_trunc rfl (hp.take hk)) m

/-- every event ends with the separator and contains it nowhere else (what `FileSetInner::emit` hands the worker) -/
def WfEvents (E : List Nat → Prop) (c : Nat) : Prop := ∀ e, E e → ∃ body, e = body ++ [c] ∧ c ∉ body

theorem Clean.boundary {t : Bool} {x : List Nat} (hwf : WfEvents E c) (h : Clean E c t x) :
    x = [] ∨ ∃ q, x = q ++ [c] := by
  cases h with
  | nil => exact .inl rfl
  | @evt x e _ he =>
    obtain ⟨body, rfl, _⟩ := hwf e he
    exact .inr ⟨x ++ body, by simp⟩
  | sep _ => exact .inr ⟨_, rfl⟩
  | trunc _ _ _ => exact .inr ⟨_, rfl⟩

def flat (c : Nat) (recs : List (List Nat)) : List Nat := (recs.map (· ++ [c])).flatten

theorem splitOn_flat {recs : List (List Nat)} (hr : ∀ r ∈ recs, c ∉ r) (y : List Nat) :
    splitOn c (flat c recs ++ y) = recs ++ splitOn c y := by
  induction recs with
  | nil => rfl
  | cons r rs ih =>
    show splitOn c (r ++ [c] ++ flat c rs ++ y) = _
    rw [List.append_assoc, List.append_assoc, List.singleton_append, splitOn_append_sep _ (hr r (by simp)),
      ih fun q hq => hr q (by simp [hq])]
    rfl

def RecordOk (E : List Nat → Prop) (c : Nat) (t : Bool) (r : List Nat) : Prop :=
  r = [] ∨ E (r ++ [c]) ∨ (t = true ∧ IsTrunc E r)

theorem not_mem_of_isTrunc (hwf : WfEvents E c) {p : List Nat} (hp : IsTrunc E p) : c ∉ p := by
  obtain ⟨_, e, he, hpre, hlen⟩ := hp
  obtain ⟨body, rfl, hb⟩ := hwf e he
  have : p <+: body :=
    List.prefix_of_prefix_length_le hpre (List.prefix_append body [c]) (by simp at hlen; omega)
  intro hm
  exact hb (this.subset hm)

/-- Clean content is a sequence of whole records, each followed by the separator. -/
theorem Clean.eq_flat {t : Bool} {x : List Nat} (hwf : WfEvents E c) (h : Clean E c t x) :
    ∃ recs, x = flat c recs ∧ ∀ r ∈ recs, c ∉ r ∧ RecordOk E c t r := by
  have snoc : ∀ {x body : List Nat}, c ∉ body → RecordOk E c t body →
      (∃ recs, x = flat c recs ∧ ∀ r ∈ recs, c ∉ r ∧ RecordOk E c t r) →
      ∃ recs, x ++ (body ++ [c]) = flat c recs ∧ ∀ r ∈ recs, c ∉ r ∧ RecordOk E c t r := by
    rintro x body hb hok ⟨recs, rfl, hr⟩
    refine ⟨recs ++ [body], by simp [flat], fun r hr' => ?_⟩
    rcases List.mem_append.mp hr' with h | h
    · exact hr r h
    · simp at h; subst h; exact ⟨hb, hok⟩
  induction h with
  | nil => exact ⟨[], rfl, by simp⟩
  | @evt x e hx he ih =>
    obtain ⟨body, rfl, hb⟩ := hwf e he
    exact snoc hb (.inr (.inl he)) ih
  | sep _ ih => exact snoc (body := []) (by simp) (.inl rfl) ih
  | trunc _ ht hp ih =>
    rw [List.append_assoc]
    exact snoc (not_mem_of_isTrunc hwf hp) (.inr (.inr ⟨ht, hp⟩)) ih

theorem Clean.records {t : Bool} {x : List Nat} (hwf : WfEvents E c) (h : Clean E c t x) :
    ∃ recs, splitOn c x = recs ++ [[]] ∧ ∀ r ∈ recs, RecordOk E c t r := by
  obtain ⟨recs, rfl, hr⟩ := h.eq_flat hwf
  have := splitOn_flat (fun r h => (hr r h).1) []
  exact ⟨recs, by simpa [splitOn] using this, fun r h => (hr r h).2⟩

/-- Every separator-delimited record of good content is empty, a complete event, or a strict prefix of one
    event (the latter only if an interrupting fault has happened) — never bytes of two events. -/
theorem Good.records {t : Bool} {x : List Nat} (hwf : WfEvents E c) (h : Good E c t x) :
    ∀ r ∈ splitOn c x, RecordOk E c t r := by
  have last : ∀ {x0 p : List Nat}, Clean E c t x0 → c ∉ p → RecordOk E c t p →
      ∀ r ∈ splitOn c (x0 ++ p), RecordOk E c t r := by
    intro x0 p h0 hp hok r hr'
    obtain ⟨recs, rfl, hr⟩ := h0.eq_flat hwf
    rw [splitOn_flat (fun r h => (hr r h).1), splitOn_of_not_mem hp] at hr'
    rcases List.mem_append.mp hr' with h | h
    · exact (hr r h).2
    · simp at h; subst h; exact hok
  rcases h with h | ⟨ht, x0, p, h0, hp, rfl⟩
  · simpa using last (p := []) h (by simp) (.inl rfl)
  · exact last h0 (not_mem_of_isTrunc hwf hp) (.inr (.inr ⟨ht, hp⟩))

/-- `e` occurs in `x` starting on a record boundary. -/
def Occurs (c : Nat) (e x : List Nat) : Prop :=
  ∃ pre post, x = pre ++ e ++ post ∧ (pre = [] ∨ ∃ q, pre = q ++ [c])

theorem Occurs.append {e x : List Nat} (h : Occurs c e x) (y : List Nat) : Occurs c e (x ++ y) := by
  obtain ⟨pre, post, rfl, hb⟩ := h
  exact ⟨pre, post ++ y, by simp, hb⟩

end

end EmitModel.FileSet
