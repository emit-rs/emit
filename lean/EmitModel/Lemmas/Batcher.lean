/-
  Lemmas/Batcher.lean — the transition function of the batcher as a relation (`Step`, `Step.of_step`: one case per
  kind of step, the successor written out, so that a field the step does not assign is the old one by `rfl`), on which
  every invariant of the channel is proved by cases; and the invariants of C06 and C09.
-/
import EmitModel.Model.Batcher

namespace EmitModel.Batcher
open EmitModel.Sched

/-- Decompose `hs : step cfg s l = some s'` into one goal per branch of the code, with `s'` substituted
    (`send` / `trySend` are left folded: `send_eq`). Only `Step.of_step` uses it. -/
macro "step_elim" hs:ident : tactic => `(tactic| (
  simp only [step, rxTake, rxFireTake, rxFireFlush, rxBegin, rxOutcome, rxRetryWaited, rxIdleWaited, dropSender,
    dropReceiver, whenFlushed, whenEmpty, conclude] at $hs:ident
  repeat' (split at $hs:ident)
  all_goals (first | (simp at $hs:ident; done) | skip)
  all_goals (try (simp only [Option.some.injEq] at $hs:ident; subst $hs:ident))))

/-! ### The accessors on each control point (so that proofs never unfold them into a `match`) -/

@[simp] theorem inflight_idle : Rx.inflight .idle = [] := rfl
@[simp] theorem inflight_taken (b tw fw : List Nat) (o : Bool) : Rx.inflight (.taken b tw fw o) = b := rfl
@[simp] theorem inflight_processing (a c ws : List Nat) : Rx.inflight (.processing a c ws) = a := rfl
@[simp] theorem inflight_retryWait (a c ws : List Nat) : Rx.inflight (.retryWait a c ws) = a := rfl
@[simp] theorem inflight_notifying (ws : List Nat) : Rx.inflight (.notifying ws) = [] := rfl
@[simp] theorem inflight_idleWait : Rx.inflight .idleWait = [] := rfl
@[simp] theorem inflight_done : Rx.inflight .done = [] := rfl
@[simp] theorem ws_idle : Rx.ws .idle = [] := rfl
@[simp] theorem ws_taken (b tw fw : List Nat) (o : Bool) : Rx.ws (.taken b tw fw o) = fw := rfl
@[simp] theorem ws_processing (a c ws : List Nat) : Rx.ws (.processing a c ws) = ws := rfl
@[simp] theorem ws_retryWait (a c ws : List Nat) : Rx.ws (.retryWait a c ws) = ws := rfl
@[simp] theorem ws_notifying (ws : List Nat) : Rx.ws (.notifying ws) = ws := rfl
@[simp] theorem ws_idleWait : Rx.ws .idleWait = [] := rfl
@[simp] theorem ws_done : Rx.ws .done = [] := rfl
@[simp] theorem takeWs_idle : Rx.takeWs .idle = [] := rfl
@[simp] theorem takeWs_taken (b tw fw : List Nat) (o : Bool) : Rx.takeWs (.taken b tw fw o) = tw := rfl
@[simp] theorem takeWs_processing (a c ws : List Nat) : Rx.takeWs (.processing a c ws) = [] := rfl
@[simp] theorem takeWs_retryWait (a c ws : List Nat) : Rx.takeWs (.retryWait a c ws) = [] := rfl
@[simp] theorem takeWs_notifying (ws : List Nat) : Rx.takeWs (.notifying ws) = [] := rfl
@[simp] theorem takeWs_idleWait : Rx.takeWs .idleWait = [] := rfl
@[simp] theorem takeWs_done : Rx.takeWs .done = [] := rfl
@[simp] theorem takenBatch_idle : Rx.takenBatch .idle = [] := rfl
@[simp] theorem takenBatch_taken (b tw fw : List Nat) (o : Bool) : Rx.takenBatch (.taken b tw fw o) = b := rfl
@[simp] theorem takenBatch_processing (a c ws : List Nat) : Rx.takenBatch (.processing a c ws) = [] := rfl
@[simp] theorem takenBatch_retryWait (a c ws : List Nat) : Rx.takenBatch (.retryWait a c ws) = [] := rfl
@[simp] theorem takenBatch_notifying (ws : List Nat) : Rx.takenBatch (.notifying ws) = [] := rfl
@[simp] theorem takenBatch_idleWait : Rx.takenBatch .idleWait = [] := rfl
@[simp] theorem takenBatch_done : Rx.takenBatch .done = [] := rfl

@[simp] theorem afterNotify_takenBatch (ws : List Nat) : (afterNotify ws).takenBatch = [] := by
  cases ws <;> rfl
@[simp] theorem afterNotify_inflight (ws : List Nat) : (afterNotify ws).inflight = [] := by
  cases ws <;> rfl
@[simp] theorem afterNotify_ws (ws : List Nat) : (afterNotify ws).ws = ws := by
  cases ws <;> rfl
@[simp] theorem afterNotify_takeWs (ws : List Nat) : (afterNotify ws).takeWs = [] := by
  cases ws <;> rfl
@[simp] theorem afterNotify_eq_taken (ws b tw fw : List Nat) (o : Bool) :
    (afterNotify ws = .taken b tw fw o) = False := by cases ws <;> simp [afterNotify]
@[simp] theorem afterNotify_eq_processing (ws a b c : List Nat) : (afterNotify ws = .processing a b c) = False := by
  cases ws <;> simp [afterNotify]
@[simp] theorem afterNotify_eq_retryWait (ws a b c : List Nat) : (afterNotify ws = .retryWait a b c) = False := by
  cases ws <;> simp [afterNotify]
@[simp] theorem afterNotify_eq_done (ws : List Nat) : (afterNotify ws = .done) = False := by
  cases ws <;> simp [afterNotify]
@[simp] theorem afterNotify_eq_idleWait (ws : List Nat) : (afterNotify ws = .idleWait) = False := by
  cases ws <;> simp [afterNotify]

attribute [simp] push truncate

theorem send_eq (cfg : Cfg) (s : St) (x : Nat) :
    send cfg s x = if cfg.cap ≤ s.pending.length then (if s.isOpen then push (truncate s) x else truncate s)
      else (if s.isOpen then push s x else s) := by
  unfold send
  by_cases hc : cfg.cap ≤ s.pending.length <;> by_cases ho : s.isOpen = true <;> simp [hc, ho]

/-- An over-approximation of `step` (`Step.of_step`; no converse is proved), exact in every field an invariant reads:
    one constructor per branch of the code with the successor written out, except that
    * `take` stands for both branches of the hand-off: the batch handed over is the pending one, empty or not;
    * `trySendRefused` stands for both refusals (closed, full);
    * `conclude` stands for every outcome that ends the batch and leaves `mProcessed`, `mFailed`, `mPanicked` and
      `retryCur` of the successor open (`p f k r`): nothing is proved about the three counters, and `retryCur` is reset
      by `begin` before it is read again.
    The state a receiver step is taken in is written `{ s with rx := … }`, so that what the receiver holds there
    (`rx.inflight`, `rx.ws`, …) computes in the hypotheses as well and no proof rewrites with an equation on `s.rx`. -/
inductive Step (cfg : Cfg) : St → Label → St → Prop
  | sendTrunc (s : St) (x : Nat) (ha : s.senderAlive = true) (hf : cfg.cap ≤ s.pending.length) (ho : s.isOpen = true) :
      Step cfg s (.send x) (push (truncate s) x)
  | sendTruncClosed (s : St) (x : Nat) (ha : s.senderAlive = true) (hf : cfg.cap ≤ s.pending.length) (ho : s.isOpen = false) :
      Step cfg s (.send x) (truncate s)
  | send (s : St) (x : Nat) (ha : s.senderAlive = true) (hf : s.pending.length < cfg.cap) (ho : s.isOpen = true) :
      Step cfg s (.send x) (push s x)
  | sendClosed (s : St) (x : Nat) (ha : s.senderAlive = true) (hf : s.pending.length < cfg.cap) (ho : s.isOpen = false) :
      Step cfg s (.send x) s
  | trySend (s : St) (x : Nat) (ha : s.senderAlive = true) (ho : s.isOpen = true) (hf : s.pending.length < cfg.cap) :
      Step cfg s (.trySend x) (push s x)
  | trySendRefused (s : St) (x : Nat) (ha : s.senderAlive = true) (h : s.isOpen = false ∨ cfg.cap ≤ s.pending.length) :
      Step cfg s (.trySend x) s
  | whenFlushedNow (s : St) (w : Nat) (ha : s.senderAlive = true) (hb : s.inBatch = false)
      (hp : s.pending = [] ∨ s.isOpen = false) :
      Step cfg s (.whenFlushed w)
        { s with registered := s.registered ++ [w],
                 obligations := s.obligations ++ [(w, s.pending ++ s.rx.inflight)],
                 acceptedAt := s.acceptedAt ++ [(w, s.accepted)], fired := s.fired ++ [w] }
  | whenFlushedLater (s : St) (w : Nat) (ha : s.senderAlive = true)
      (h : s.inBatch = true ∨ (s.pending ≠ [] ∧ s.isOpen = true)) :
      Step cfg s (.whenFlushed w)
        { s with registered := s.registered ++ [w],
                 obligations := s.obligations ++ [(w, s.pending ++ s.rx.inflight)],
                 acceptedAt := s.acceptedAt ++ [(w, s.accepted)], pendFlushW := s.pendFlushW ++ [w] }
  | whenEmptyNow (s : St) (w : Nat) (ha : s.senderAlive = true) (hp : s.pending = []) :
      Step cfg s (.whenEmpty w)
        { s with registeredTake := s.registeredTake ++ [w], firedTake := s.firedTake ++ [w] }
  | whenEmptyLater (s : St) (w : Nat) (ha : s.senderAlive = true) (hp : s.pending ≠ []) :
      Step cfg s (.whenEmpty w)
        { s with registeredTake := s.registeredTake ++ [w], pendTakeW := s.pendTakeW ++ [w] }
  | dropSender (s : St) (ha : s.senderAlive = true) : Step cfg s .dropSender { s with isOpen := false, senderAlive := false }
  | take (s : St) :
      Step cfg { s with rx := .idle } .rxTake
        { s with inBatch := !s.pending.isEmpty, rx := .taken s.pending s.pendTakeW s.pendFlushW s.isOpen,
                 pending := [], pendTakeW := [], pendFlushW := [] }
  | fireTake (s : St) (b w tw fw o) :
      Step cfg { s with rx := .taken b (w :: tw) fw o } .rxFireTake
        { s with firedTake := s.firedTake ++ [w], rx := .taken b tw fw o }
  | fireFlushEmpty (s : St) (w fw o) :
      Step cfg { s with rx := .taken [] [] (w :: fw) o } .rxFireFlush
        { s with fired := s.fired ++ [w], rx := .taken [] [] fw o }
  | fireFlush (s : St) (w ws) :
      Step cfg { s with rx := .notifying (w :: ws) } .rxFireFlush
        { s with fired := s.fired ++ [w], rx := afterNotify ws }
  | begin (s : St) (b fw o) (hb : b ≠ []) :
      Step cfg { s with rx := .taken b [] fw o } .rxBegin
        { s with retryCur := 0, retryDelay := 0, idleDelay := 0, rx := .processing b b fw,
                 calls := s.calls ++ [b], firstAttempts := s.firstAttempts ++ [b],
                 callsPerBatch := s.callsPerBatch ++ [1], batchWaits := [] }
  | return (s : St) : Step cfg { s with rx := .taken [] [] [] false } .rxBegin { s with rx := .done, isOpen := false }
  | idleWait (s : St) :
      Step cfg { s with rx := .taken [] [] [] true } .rxBegin
        { s with idleDelay := delayNext s.idleDelay cfg.idleStep cfg.idleCap,
                 waits := s.waits ++ [delayNext s.idleDelay cfg.idleStep cfg.idleCap], rx := .idleWait }
  | retry (s : St) (orig cur ws rem) (hr : rem ≠ []) (hc : s.retryCur + 1 ≤ cfg.retryMax) :
      Step cfg { s with rx := .processing orig cur ws } (.rxOutcome (.failRetry rem))
        { s with mFailed := s.mFailed + 1, retryCur := s.retryCur + 1,
                 retryDelay := delayNext s.retryDelay cfg.retryStep cfg.retryCap,
                 waits := s.waits ++ [delayNext s.retryDelay cfg.retryStep cfg.retryCap],
                 batchWaits := s.batchWaits ++ [delayNext s.retryDelay cfg.retryStep cfg.retryCap],
                 lastReturned := rem, rx := .retryWait orig rem ws }
  | conclude (s : St) (o orig cur ws p f k r)
      (hfin : ∀ rem, o = .failRetry rem → rem = [] ∨ cfg.retryMax < s.retryCur + 1) :
      Step cfg { s with rx := .processing orig cur ws } (.rxOutcome o)
        { s with mProcessed := p, mFailed := f, mPanicked := k, retryCur := r,
                 finalised := s.finalised ++ orig, rx := afterNotify ws }
  | retryWaited (s : St) (orig rem ws) :
      Step cfg { s with rx := .retryWait orig rem ws } .rxRetryWaited
        { s with rx := .processing orig rem ws, mRetry := s.mRetry + 1, calls := s.calls ++ [rem],
                 retryCalls := s.retryCalls ++ [(s.lastReturned, rem)],
                 callsPerBatch := bumpLast s.callsPerBatch }
  | idleWaited (s : St) : Step cfg { s with rx := .idleWait } .rxIdleWaited { s with rx := .idle }
  | dropReceiver (s : St) (r : Rx) (h1 : ∀ b tw fw o, r ≠ .taken b tw fw o) (h2 : ∀ ws, r ≠ .notifying ws) (h3 : r ≠ .done) :
      Step cfg { s with rx := r } .dropReceiver
        { s with isOpen := false, rx := .done, tornDown := true, pendingAtTeardown := s.pending,
                 dropped := s.dropped ++ r.ws }

theorem Step.of_step {cfg : Cfg} {s s' : St} {l : Label} (hs : step cfg s l = some s') : Step cfg s l s' := by
  have at_ : ∀ {r t}, s.rx = r → Step cfg { s with rx := r } l t → Step cfg s l t := fun e h => by
    cases s; cases e; exact h
  cases l
  case send x =>
    step_elim hs
    rename_i ha
    rw [send_eq]
    by_cases hc : cfg.cap ≤ s.pending.length <;> by_cases ho : s.isOpen = true
    · simpa [hc, ho] using Step.sendTrunc s x ha hc ho
    · simpa [hc, ho] using Step.sendTruncClosed s x ha hc (by simpa using ho)
    · simpa [hc, ho] using Step.send s x ha (by omega) ho
    · simpa [hc, ho] using Step.sendClosed s x ha (by omega) (by simpa using ho)
  case trySend x =>
    step_elim hs
    rename_i ha
    unfold Batcher.trySend
    by_cases ho : s.isOpen = true <;> by_cases hc : s.pending.length < cfg.cap
    · simpa [hc, ho] using Step.trySend s x ha ho hc
    · simpa [hc, ho] using Step.trySendRefused s x ha (.inr (by omega))
    · simpa [hc, ho] using Step.trySendRefused s x ha (.inl (by simpa using ho))
    · simpa [hc, ho] using Step.trySendRefused s x ha (.inl (by simpa using ho))
  case whenFlushed w =>
    step_elim hs
    · rename_i ha hc
      simp only [Bool.and_eq_true, Bool.not_eq_eq_eq_not, Bool.not_true, Bool.or_eq_true, List.isEmpty_iff] at hc
      exact .whenFlushedNow s w ha hc.1 hc.2
    · rename_i ha hc
      refine .whenFlushedLater s w ha ?_
      by_cases hb : s.inBatch = true
      · exact .inl hb
      · by_cases hp : s.pending = [] <;> by_cases ho : s.isOpen = true <;> simp_all
  case whenEmpty w =>
    step_elim hs
    · exact .whenEmptyNow s w ‹_› (by simpa using ‹s.pending.isEmpty = true›)
    · exact .whenEmptyLater s w ‹_› (by simpa using ‹¬ s.pending.isEmpty = true›)
  case dropSender => step_elim hs; exact .dropSender s ‹_›
  case rxTake =>
    step_elim hs
    · rename_i hrx hp
      have : s.pending.isEmpty = false := by cases h : s.pending <;> simp [h] at hp ⊢
      simpa [this] using at_ hrx (.take s)
    · rename_i hrx hp
      have : s.pending = [] := by simpa using hp
      simpa [this] using at_ hrx (.take s)
  case rxFireTake => step_elim hs; exact at_ ‹_› (.fireTake s _ _ _ _ _)
  case rxFireFlush =>
    step_elim hs
    · exact at_ ‹_› (.fireFlushEmpty s _ _ _)
    · exact at_ ‹_› (.fireFlush s _ _)
  case rxBegin =>
    step_elim hs
    · rename_i b fw o hrx hb
      exact at_ hrx (.begin s b fw o (by intro h; simp [h] at hb))
    all_goals
      -- the empty hand-off: return or idle wait, by the `is_open` value read at the hand-off
      rename_i b o hb _ hrx ho
      obtain rfl : b = [] := by simpa using hb
      cases o <;> simp at ho
      first | exact at_ hrx (.return s) | exact at_ hrx (.idleWait s)
  case rxOutcome o =>
    cases o
    case failRetry rem =>
      step_elim hs
      · rename_i hr hc
        exact at_ ‹_› (.retry s _ _ _ rem (by intro h; simp [h] at hr) hc)
      · rename_i hr hc
        exact at_ ‹_› (.conclude s _ _ _ _ _ _ _ _ fun _ e => by cases e; exact .inr (by omega))
      · rename_i hr
        exact at_ ‹_› (.conclude s _ _ _ _ _ _ _ _ fun _ e => by cases e; exact .inl (by simpa using hr))
    all_goals step_elim hs; exact at_ ‹_› (.conclude s _ _ _ _ _ _ _ _ nofun)
  case rxRetryWaited => step_elim hs; exact at_ ‹_› (.retryWaited s _ _ _)
  case rxIdleWaited => step_elim hs; exact at_ ‹_› (.idleWaited s)
  case dropReceiver =>
    step_elim hs
    rename_i r h1 h2 h3
    exact at_ rfl (.dropReceiver s s.rx (fun b tw fw o h => h1 b tw fw o h) (fun ws h => h2 ws h) h3)

theorem Rx.not_taken {r : Rx} (h : ∀ b tw fw o, r ≠ .taken b tw fw o) : r.takenBatch = [] ∧ r.takeWs = [] := by
  cases r <;> first | exact ⟨rfl, rfl⟩ | exact absurd rfl (h _ _ _ _)

theorem dropTail_append (a b : List Nat) : dropTail (a ++ b) b.length = a := by
  simp [dropTail]

/-- The kept accepted sequence is, in order: the first attempts, then a swapped-out batch not yet handed over,
    then the pending queue; truncations are counted and account for everything that is not kept. -/
structure InvPart (s : St) : Prop where
  part : s.acceptedKept = (s.firstAttempts.flatten ++ s.rx.takenBatch) ++ s.pending
  truncCount : s.truncations.length = s.mTruncated
  perm : s.accepted.Perm (s.acceptedKept ++ s.truncations.flatten)

theorem InvPart.truncate {s : St} (h : InvPart s) : InvPart (truncate s) := by
  obtain ⟨h1, h2, h3⟩ := h
  constructor
  · simp only [Batcher.truncate]; rw [h1, dropTail_append]; simp
  · simp [Batcher.truncate, h2]
  · simp only [Batcher.truncate]
    rw [h1] at h3 ⊢
    rw [dropTail_append]
    simp only [List.flatten_append, List.flatten_cons, List.flatten_nil, List.append_nil]
    refine h3.trans ?_
    rw [List.append_assoc]
    exact List.Perm.append_left _ List.perm_append_comm

theorem InvPart.push {s : St} (h : InvPart s) (x : Nat) : InvPart (push s x) := by
  obtain ⟨h1, h2, h3⟩ := h
  constructor
  · simp [Batcher.push, h1]
  · simp [Batcher.push, h2]
  · simp only [Batcher.push]
    have := List.Perm.append_right [x] h3
    refine this.trans ?_
    simp only [List.append_assoc]
    exact List.Perm.append_left _ List.perm_append_comm

theorem invPart_step (cfg : Cfg) (s : St) (l : Label) (s' : St) (h : InvPart s) (hs : step cfg s l = some s') :
    InvPart s' := by
  cases Step.of_step hs
  case sendTrunc x _ _ _ => exact h.truncate.push x
  case sendTruncClosed => exact h.truncate
  case send x _ _ _ => exact h.push x
  case trySend x _ _ _ => exact h.push x
  case dropReceiver h1 _ _ => exact ⟨by simpa [(Rx.not_taken h1).1] using h.part, h.truncCount, h.perm⟩
  -- `take` and `begin` move the batch along the three segments of `part`; nothing else touches them
  all_goals exact ⟨by simpa using h.part, h.truncCount, h.perm⟩

theorem invPart_reachable (cfg : Cfg) (s : St) (h : Reachable cfg s) : InvPart s :=
  invariant_of_step (by constructor <;> simp [init]) (invPart_step cfg) s h

structure InvCap (cfg : Cfg) (s : St) : Prop where
  bound : s.pending.length ≤ cfg.cap
  segs : ∀ seg ∈ s.truncations, seg.length = cfg.cap

theorem invCap_step (cfg : Cfg) (hcap : 1 ≤ cfg.cap) (s : St) (l : Label) (s' : St) (h : InvCap cfg s)
    (hs : step cfg s l = some s') : InvCap cfg s' := by
  have hseg : cfg.cap ≤ s.pending.length → ∀ seg ∈ s.truncations ++ [s.pending], seg.length = cfg.cap := by
    intro hf seg hm
    rcases List.mem_append.mp hm with hm | hm
    · exact h.segs seg hm
    · rw [List.mem_singleton.mp hm]; exact Nat.le_antisymm h.bound hf
  cases Step.of_step hs
  -- a full queue is cleared before the push: one item is left, which needs `1 ≤ cap`
  case sendTrunc x _ hf _ => exact ⟨hcap, hseg hf⟩
  case sendTruncClosed hf _ => exact ⟨Nat.zero_le _, hseg hf⟩
  case send x _ hf _ => exact ⟨by simpa using Nat.succ_le_of_lt hf, h.segs⟩
  case trySend x _ _ hf => exact ⟨by simpa using Nat.succ_le_of_lt hf, h.segs⟩
  case take => exact ⟨Nat.zero_le _, h.segs⟩
  all_goals exact ⟨h.bound, h.segs⟩

theorem invCap_reachable (cfg : Cfg) (hcap : 1 ≤ cfg.cap) (s : St) (h : Reachable cfg s) : InvCap cfg s :=
  invariant_of_step ⟨Nat.zero_le _, nofun⟩ (invCap_step cfg hcap) s h

/-- Retries re-deliver exactly the returned remainder (C06). -/
structure InvRetry (s : St) : Prop where
  retryRem : ∀ o r w, s.rx = .retryWait o r w → s.lastReturned = r
  retryOk : ∀ p ∈ s.retryCalls, p.1 = p.2
  callsLen : s.calls.length = s.firstAttempts.length + s.retryCalls.length

theorem invRetry_step (cfg : Cfg) (s : St) (l : Label) (s' : St) (h : InvRetry s) (hs : step cfg s l = some s') :
    InvRetry s' := by
  cases Step.of_step hs
  case begin => exact ⟨nofun, h.retryOk, by simp [h.callsLen]; omega⟩
  case retry => exact ⟨fun _ _ _ e => by cases e; rfl, h.retryOk, h.callsLen⟩
  case retryWaited s orig rem ws =>
    refine ⟨nofun, fun p hp => ?_, by simp [h.callsLen]; omega⟩
    rcases List.mem_append.mp hp with hp | hp
    · exact h.retryOk p hp
    · rw [List.mem_singleton.mp hp]; exact h.retryRem orig rem ws rfl
  -- the sender's steps leave the receiver where it is; the receiver's other steps do not end in a retry wait
  all_goals exact ⟨by first | exact h.retryRem | simp, h.retryOk, h.callsLen⟩

theorem invRetry_reachable (cfg : Cfg) (s : St) (h : Reachable cfg s) : InvRetry s :=
  invariant_of_step (by constructor <;> simp [init]) (invRetry_step cfg) s h

/-- What a receiver teardown leaves (C06). -/
structure InvTear (s : St) : Prop where
  done : s.tornDown = true → s.rx = .done
  closed : s.rx = .done → s.isOpen = false
  pend : s.tornDown = true → s.pending = s.pendingAtTeardown ∨ s.pending = []

theorem invTear_alive {t : St} (ht : t.tornDown = false) (hr : t.rx ≠ .done) : InvTear t :=
  ⟨fun h => by simp [ht] at h, fun h => absurd h hr, fun h => by simp [ht] at h⟩

theorem invTear_step (cfg : Cfg) (s : St) (l : Label) (s' : St) (h : InvTear s) (hs : step cfg s l = some s') :
    InvTear s' := by
  have alive : s.rx ≠ .done → s.tornDown = false := fun hr => by
    cases ht : s.tornDown
    · rfl
    · exact absurd (h.done ht) hr
  have opn : s.isOpen = true → s.rx ≠ .done := fun ho hr => by simp [h.closed hr] at ho
  cases Step.of_step hs
  case sendTrunc ho => exact invTear_alive (alive (opn ho)) (opn ho)
  case send ho => exact invTear_alive (alive (opn ho)) (opn ho)
  case trySend ho _ => exact invTear_alive (alive (opn ho)) (opn ho)
  case sendTruncClosed => exact ⟨h.done, h.closed, fun _ => .inr rfl⟩
  case «return» => exact ⟨fun _ => rfl, fun _ => rfl, fun ht => Bool.noConfusion ((alive (by simp)).symm.trans ht)⟩
  case dropReceiver => exact ⟨fun _ => rfl, fun _ => rfl, fun _ => .inl rfl⟩
  case sendClosed | trySendRefused | whenFlushedNow | whenFlushedLater | whenEmptyNow | whenEmptyLater =>
    exact ⟨h.done, h.closed, h.pend⟩
  case dropSender => exact ⟨h.done, fun _ => rfl, h.pend⟩
  all_goals exact invTear_alive (alive (by simp)) (by simp)

theorem invTear_reachable (cfg : Cfg) (s : St) (h : Reachable cfg s) : InvTear s :=
  invariant_of_step (by constructor <;> simp [init]) (invTear_step cfg) s h

theorem fired_mono_step (cfg : Cfg) (s : St) (l : Label) (s' : St) (w : Nat) (h : w ∈ s.fired)
    (hs : step cfg s l = some s') : w ∈ s'.fired := by
  cases Step.of_step hs with
  | whenFlushedNow | fireFlushEmpty | fireFlush => exact List.mem_append_left _ h
  | _ => exact h

theorem fired_mono (cfg : Cfg) (w : Nat) (ls : List Label) (s s' : St) (h : w ∈ s.fired)
    (hs : run (step cfg) s ls = some s') : w ∈ s'.fired :=
  run_invariant (Inv := fun t => w ∈ t.fired) (fun a l b ha st => fired_mono_step cfg a l b w ha st) ls s s' h hs

theorem firedTake_mono_step (cfg : Cfg) (s : St) (l : Label) (s' : St) (w : Nat) (h : w ∈ s.firedTake)
    (hs : step cfg s l = some s') : w ∈ s'.firedTake := by
  cases Step.of_step hs with
  | whenEmptyNow | fireTake => exact List.mem_append_left _ h
  | _ => exact h

theorem tornDown_mono_step (cfg : Cfg) (s : St) (l : Label) (s' : St) (h : s.tornDown = true)
    (hs : step cfg s l = some s') : s'.tornDown = true := by
  cases Step.of_step hs with
  | dropReceiver => rfl
  | _ => exact h

theorem dropped_reachable (cfg : Cfg) (s : St) (h : Reachable cfg s) : s.dropped ≠ [] → s.tornDown = true :=
  invariant_of_step (Inv := fun s => s.dropped ≠ [] → s.tornDown = true) (fun h => absurd rfl h)
    (fun s l s' h hs => by
      cases Step.of_step hs with
      | dropReceiver => exact fun _ => rfl
      | _ => exact h) s h

end EmitModel.Batcher
