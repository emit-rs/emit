/-
  Lemmas/Ctxt.lean — C03. The ghost bookkeeping (`G`: which frames are entered where, in what order, and what
  each opened frame shows), the well-nestedness discipline `wstep`/`run` ("exits happen in stack order per
  (thread, context); a frame is entered at most once at a time; a handle is opened once"), the inductive
  invariant `Inv` and its preservation by every event, and the bridge `compile_balanced`: every compiled
  program — guards, closures, polls, unwinding alike — is a balanced block.
-/
import EmitModel.Model.Ctxt
namespace EmitModel.Ctxt
variable {V : Type}

@[simp] theorem Erased.get_new {α} (b : Bool) (a : α) : (Erased.new b a).get = a := by
  unfold Erased.new; split <;> rfl
@[simp] theorem Erased.get_set {α} (e : Erased α) (a : α) : (e.set a).get = a := by
  cases e <;> rfl

theorem get_insert (m : List (String × V)) (k : String) (v : V) (k' : String) :
    get (insert k v m) k' = if k = k' then some v else get m k' := by
  fun_induction insert k v m with
  | case1 => simp [get]
  | case2 ka va r h => simp [get]
  | case3 va r h1 => simp only [get]; split <;> simp_all
  | case4 ka va r h1 h2 ih =>
    simp only [get, ih]; split <;> rename_i h3
    · subst h3; simp_all
    · rfl

/-- last pair with key `k` -/
def lastOf (ps : List (String × V)) (k : String) : Option V :=
  match ps with
  | [] => none
  | (k', v) :: r => match lastOf r k with
    | some v' => some v'
    | none => if k' = k then some v else none

theorem lastOf_nokey (a : List (String × V)) (k : String) (h : ∀ p ∈ a, p.1 ≠ k) : lastOf a k = none := by
  induction a with
  | nil => rfl
  | cons x a ih =>
    obtain ⟨k', v⟩ := x
    have hne : k' ≠ k := h (k', v) List.mem_cons_self
    simp [lastOf, ih (fun p hp => h p (List.mem_cons_of_mem _ hp)), hne]

theorem lastOf_append (a b : List (String × V)) (k : String) :
    lastOf (a ++ b) k = (lastOf b k).or (lastOf a k) := by
  induction a with
  | nil => simp [lastOf]
  | cons x a ih =>
    obtain ⟨k', v⟩ := x
    simp only [List.cons_append, lastOf, ih]
    cases lastOf b k <;> simp

theorem get_insertAll (ps : List (String × V)) (m : List (String × V)) (k : String) :
    get (insertAll m ps) k = (lastOf ps k).or (get m k) := by
  induction ps generalizing m with
  | nil => simp [insertAll, lastOf]
  | cons a ps ih =>
    obtain ⟨ka, va⟩ := a
    have : insertAll m ((ka, va) :: ps) = insertAll (insert ka va m) ps := rfl
    rw [this, ih, get_insert]
    simp only [lastOf]
    cases lastOf ps k <;> simp
    split <;> simp

/-- `stack t c`: innermost first. `view f` is fixed at `open`; `base` (what shows with nothing entered) never changes. -/
structure G (V : Type) where
  stack : Nat → Nat → List Nat
  loc : Nat → Option (Nat × Nat)
  ctxtOf : Nat → Option Nat
  view : Nat → Option (List (String × V))
  base : Nat → Nat → Option (List (String × V))

def setStack (a : Nat → Nat → List Nat) (t c : Nat) (v : List Nat) : Nat → Nat → List Nat :=
  fun t' c' => if t' = t ∧ c' = c then v else a t' c'

def wstep (s : St V) (g : G V) : Ev V → Option (G V)
  | .open t c f kind ps =>
    if g.ctxtOf f = none then
      some { g with ctxtOf := setSlot g.ctxtOf f (some c), view := setSlot g.view f (openFrame kind (s.active t c) ps) }
    else none
  | .enter t c f =>
    if g.ctxtOf f = some c ∧ g.loc f = none then
      some { g with stack := setStack g.stack t c (f :: g.stack t c), loc := setSlot g.loc f (some (t, c)) }
    else none
  | .exit t c f =>
    match g.stack t c with
    | f' :: rest => if f' = f then some { g with stack := setStack g.stack t c rest, loc := setSlot g.loc f none } else none
    | [] => none
  | .observe _ _ => some g

def run (s : St V) (g : G V) : List (Ev V) → Option (St V × G V)
  | [] => some (s, g)
  | e :: es =>
    match wstep s g e with
    | some g' => run (step s e) g' es
    | none => none

def topOf (g : G V) (t c : Nat) : List Nat → Option (List (String × V))
  | [] => g.base t c
  | f :: _ => g.view f

/-- `act` is the claim. `chain` makes it inductive: the slot of an entered frame holds what the rest of its stack shows,
    which is what `exit` puts back; `idle`: a frame entered nowhere holds its own view. -/
structure Inv (s : St V) (g : G V) : Prop where
  act : ∀ t c, s.active t c = topOf g t c (g.stack t c)
  chain : ∀ t c f r, (f :: r) <:+ g.stack t c → (s.slot f).get = topOf g t c r
  idle : ∀ f c, g.ctxtOf f = some c → g.loc f = none → (s.slot f).get = g.view f
  locs : ∀ t c f, f ∈ g.stack t c ↔ g.loc f = some (t, c)
  nodup : ∀ t c, (g.stack t c).Nodup
  opened : ∀ f p, g.loc f = some p → ∃ c, g.ctxtOf f = some c

theorem Inv.loc_none {s : St V} {g : G V} (h : Inv s g) {f : Nat} (hf : g.ctxtOf f = none) : g.loc f = none := by
  cases hl : g.loc f with
  | none => rfl
  | some p => obtain ⟨c, hc⟩ := h.opened f p hl; simp [hf] at hc

theorem Inv.not_mem_stack {s : St V} {g : G V} (h : Inv s g) {f : Nat} (hl : g.loc f = none) (t c : Nat) :
    f ∉ g.stack t c :=
  fun hm => by simpa [hl] using (h.locs t c f).1 hm

theorem inv_observe {s : St V} {g : G V} (h : Inv s g) (t c : Nat) : Inv (step s (.observe t c)) g := h

def G.open (g : G V) (s : St V) (t c f : Nat) (kind : Kind) (ps : List (String × V)) : G V :=
  { g with ctxtOf := setSlot g.ctxtOf f (some c), view := setSlot g.view f (openFrame kind (s.active t c) ps) }
def G.enter (g : G V) (t c f : Nat) : G V :=
  { g with stack := setStack g.stack t c (f :: g.stack t c), loc := setSlot g.loc f (some (t, c)) }
def G.exit (g : G V) (t c f : Nat) (rest : List Nat) : G V :=
  { g with stack := setStack g.stack t c rest, loc := setSlot g.loc f none }

inductive WStep (s : St V) (g : G V) : Ev V → G V → Prop
  | «open» (t c f : Nat) (kind : Kind) (ps : List (String × V)) (hf : g.ctxtOf f = none) :
      WStep s g (.open t c f kind ps) (g.open s t c f kind ps)
  | enter (t : Nat) {c f : Nat} (hc : g.ctxtOf f = some c) (hl : g.loc f = none) :
      WStep s g (.enter t c f) (g.enter t c f)
  | exit {t c f : Nat} {rest : List Nat} (hst : g.stack t c = f :: rest) : WStep s g (.exit t c f) (g.exit t c f rest)
  | observe (t c : Nat) : WStep s g (.observe t c) g

theorem WStep.of_wstep {s : St V} {g g' : G V} {e : Ev V} (hw : wstep s g e = some g') : WStep s g e g' := by
  cases e with
  | «open» t c f kind ps =>
    simp only [wstep] at hw
    split at hw <;> cases hw
    exact .open t c f kind ps ‹_›
  | enter t c f =>
    simp only [wstep] at hw
    split at hw <;> cases hw
    exact .enter t ‹_ ∧ _›.1 ‹_ ∧ _›.2
  | exit t c f =>
    simp only [wstep] at hw
    split at hw <;> try cases hw
    split at hw <;> cases hw
    exact ‹_ = f› ▸ .exit ‹_›
  | observe t c => cases hw; exact .observe t c

theorem WStep.wstep {s : St V} {g g' : G V} {e : Ev V} (h : WStep s g e g') : wstep s g e = some g' := by
  cases h <;> simp [Ctxt.wstep, G.open, G.enter, G.exit, *]

theorem topOf_congr (g g' : G V) (t c : Nat) (l : List Nat) (hb : g'.base = g.base)
    (hv : ∀ x ∈ l, g'.view x = g.view x) : topOf g' t c l = topOf g t c l := by
  cases l with
  | nil => simp [topOf, hb]
  | cons a l => simp [topOf, hv]

theorem inv_step {s : St V} {g : G V} (h : Inv s g) (e : Ev V) (g' : G V) (hw : wstep s g e = some g') :
    Inv (step s e) g' := by
  cases WStep.of_wstep hw with
  | «open» t c f kind ps hf =>
    unfold G.open
    have notin := h.not_mem_stack (h.loc_none hf)
    have hview : ∀ t' c' l, l <:+ g.stack t' c' → ∀ x ∈ l,
        setSlot g.view f (openFrame kind (s.active t c) ps) x = g.view x := by
      intro t' c' l hl x hx
      have : x ≠ f := fun e => notin t' c' (e ▸ hl.subset hx)
      simp [setSlot, this]
    constructor
    · intro t' c'
      simp only [step]
      rw [h.act]
      apply Eq.symm; apply topOf_congr
      · rfl
      · exact hview t' c' _ (List.suffix_refl _)
    · intro t' c' f' r hs
      have hne : f' ≠ f := fun e => notin t' c' (e ▸ hs.subset (List.mem_cons_self))
      simp only [step, setSlot, hne, if_false]
      rw [h.chain t' c' f' r hs]
      apply Eq.symm; apply topOf_congr
      · rfl
      · exact hview t' c' r ((List.suffix_cons f' r).trans hs)
    · intro f' c' h1 h2
      simp only [step, setSlot] at *
      split
      · simp
      · simp_all; exact h.idle f' c' h1 h2
    · exact h.locs
    · exact h.nodup
    · intro f' p hp
      simp only [setSlot]; split
      · exact ⟨c, rfl⟩
      · exact h.opened f' p hp
  | @enter t c f hc hl =>
    unfold G.enter
    have notin := h.not_mem_stack hl
    have hslot := h.idle f c hc hl
    -- chain: the slot of `f` takes what (t, c) showed, which is what the rest of the new stack shows
    constructor
    · intro t' c'
      simp only [step, swap, setActive, setStack]
      split
      · simp [topOf, hslot]
      · exact h.act t' c'
    · intro t' c' f' r hs
      simp only [step, swap, setSlot, setStack] at *
      split at hs
      · rename_i htc; obtain ⟨rfl, rfl⟩ := htc
        rcases List.suffix_cons_iff.1 hs with heq | hs'
        · injection heq with h1 h2; subst h1 h2
          simp [h.act]; rfl
        · have hne : f' ≠ f := fun e => notin t' c' (e ▸ hs'.subset (List.mem_cons_self))
          simp [hne]; exact h.chain _ _ _ _ hs'
      · have hne : f' ≠ f := fun e => notin t' c' (e ▸ hs.subset (List.mem_cons_self))
        simp [hne]; exact h.chain _ _ _ _ hs
    · intro f' c' h1 h2
      simp only [step, swap, setSlot] at *
      split at h2
      · simp at h2
      · rename_i hne; simp [hne]; exact h.idle f' c' h1 h2
    · intro t' c' f'
      simp only [setStack, setSlot]
      by_cases htc : t' = t ∧ c' = c
      · obtain ⟨rfl, rfl⟩ := htc
        simp only [and_self, if_true, List.mem_cons]
        by_cases hff : f' = f
        · simp [hff]
        · simp [hff]; exact h.locs _ _ _
      · simp only [htc, if_false]
        by_cases hff : f' = f
        · subst hff; simp [notin]; intro h1 h2; exact htc ⟨h1.symm, h2.symm⟩
        · simp [hff]; exact h.locs _ _ _
    · intro t' c'
      simp only [setStack]; split
      · rename_i htc; obtain ⟨rfl, rfl⟩ := htc
        exact List.nodup_cons.2 ⟨notin _ _, h.nodup _ _⟩
      · exact h.nodup _ _
    · intro f' p hp
      simp only [setSlot] at hp
      split at hp
      · rename_i e; subst e; exact ⟨c, hc⟩
      · exact h.opened f' p hp
  | @exit t c f rest hst =>
    unfold G.exit
    have hnd := h.nodup t c
    rw [hst] at hnd
    have hfr : f ∉ rest := (List.nodup_cons.1 hnd).1
    have hloc : g.loc f = some (t, c) := (h.locs t c f).1 (by rw [hst]; exact List.mem_cons_self)
    have other : ∀ t' c' f', f' ∈ g.stack t' c' → ¬(t' = t ∧ c' = c) → f' ≠ f := by
      intro t' c' f' hm htc e
      subst e
      have := (h.locs t' c' f').1 hm
      rw [hloc] at this
      injection this with this; injection this with h1 h2
      exact htc ⟨h1.symm, h2.symm⟩
    -- act: (t, c) shows again what `f`'s slot held, by `chain` at the top of the stack
    constructor
    · intro t' c'
      simp only [step, swap, setActive, setStack]
      split
      · rename_i htc; obtain ⟨rfl, rfl⟩ := htc
        exact h.chain _ _ f rest (by rw [hst]; exact List.suffix_refl _)
      · exact h.act t' c'
    · intro t' c' f' r hs
      simp only [step, swap, setSlot, setStack] at *
      split at hs
      · rename_i htc; obtain ⟨rfl, rfl⟩ := htc
        have hne : f' ≠ f := fun e => hfr (e ▸ hs.subset (List.mem_cons_self))
        simp [hne]
        exact h.chain _ _ _ _ (by rw [hst]; exact hs.trans (List.suffix_cons _ _))
      · rename_i htc
        have hne : f' ≠ f := other t' c' f' (hs.subset (List.mem_cons_self)) htc
        simp [hne]; exact h.chain _ _ _ _ hs
    · intro f' c' h1 h2
      simp only [step, swap, setSlot] at *
      split
      · rename_i e; subst e
        simp [h.act, hst, topOf]
      · rename_i hne; simp [hne] at h2; exact h.idle f' c' h1 h2
    · intro t' c' f'
      simp only [setStack, setSlot]
      by_cases htc : t' = t ∧ c' = c
      · obtain ⟨rfl, rfl⟩ := htc
        simp only [and_self, if_true]
        by_cases hff : f' = f
        · subst hff; simp [hfr]
        · simp [hff]; rw [← h.locs, hst]; simp [hff]
      · simp only [htc, if_false]
        by_cases hff : f' = f
        · subst hff; simp
          intro hm; exact other t' c' f' hm htc rfl
        · simp [hff]; exact h.locs _ _ _
    · intro t' c'
      simp only [setStack]; split
      · exact (List.nodup_cons.1 hnd).2
      · exact h.nodup _ _
    · intro f' p hp
      simp only [setSlot] at hp
      split at hp
      · simp at hp
      · exact h.opened f' p hp
  | observe t c => exact h

theorem inv_run {s : St V} {g : G V} (h : Inv s g) (evs : List (Ev V)) (s' : St V) (g' : G V)
    (hr : run s g evs = some (s', g')) : Inv s' g' := by
  fun_induction run s g evs with
  | case1 s g => cases hr; exact h
  | case2 s g e es g1 hw ih => exact ih (inv_step h e g1 hw) hr
  | case3 => cases hr

theorem run_fst {s : St V} {g : G V} (evs : List (Ev V)) (s' : St V) (g' : G V)
    (hr : run s g evs = some (s', g')) : s' = exec s evs := by
  fun_induction run s g evs with
  | case1 s g => cases hr; rfl
  | case2 s g e es g1 hw ih => exact ih hr
  | case3 => cases hr

theorem exec_append (a b : List (Ev V)) (s : St V) : exec s (a ++ b) = exec (exec s a) b := by
  induction a generalizing s with
  | nil => rfl
  | cons e es ih => exact ih (step s e)

theorem run_cons {s : St V} {g g' : G V} {e : Ev V} (h : wstep s g e = some g') (es : List (Ev V)) :
    run s g (e :: es) = run (step s e) g' es := by
  simp [run, h]

theorem run_append {s : St V} {g : G V} (a b : List (Ev V)) :
    run s g (a ++ b) = (run s g a).bind (fun p => run p.1 p.2 b) := by
  fun_induction run s g a with
  | case1 s g => rfl
  | case2 s g e es g1 hw ih => simp only [List.cons_append, run, hw, ih]
  | case3 s g e es hw => simp [run, hw]

/-- the ghost bookkeeping only ever adds opened frames, and never changes the view of an opened frame -/
structure Ext (g g' : G V) : Prop where
  ctxtOf : ∀ f c, g.ctxtOf f = some c → g'.ctxtOf f = some c
  view : ∀ f c, g.ctxtOf f = some c → g'.view f = g.view f
  base : g'.base = g.base

theorem Ext.refl (g : G V) : Ext g g := ⟨fun _ _ h => h, fun _ _ _ => rfl, rfl⟩
theorem Ext.trans {g1 g2 g3 : G V} (a : Ext g1 g2) (b : Ext g2 g3) : Ext g1 g3 :=
  ⟨fun f c h => b.ctxtOf f c (a.ctxtOf f c h), fun f c h => (b.view f c (a.ctxtOf f c h)).trans (a.view f c h),
   b.base.trans a.base⟩

theorem ext_step {s : St V} {g : G V} (e : Ev V) (g' : G V) (hw : wstep s g e = some g') : Ext g g' := by
  cases WStep.of_wstep hw with
  | «open» t c f kind ps hf =>
    have hne : ∀ f' c', g.ctxtOf f' = some c' → f' ≠ f := fun f' c' h e => by simp [e, hf] at h
    exact ⟨fun f' c' h => by simp [G.open, setSlot, hne f' c' h, h], fun f' c' h => by simp [G.open, setSlot, hne f' c' h],
      rfl⟩
  | enter | exit | observe => exact ⟨fun _ _ h => h, fun _ _ _ => rfl, rfl⟩

theorem ext_run {s : St V} {g : G V} (evs : List (Ev V)) (s' : St V) (g' : G V)
    (hr : run s g evs = some (s', g')) : Ext g g' := by
  fun_induction run s g evs with
  | case1 s g => cases hr; exact Ext.refl _
  | case2 s g e es g1 hw ih => exact (ext_step e g1 hw).trans (ih hr)
  | case3 => cases hr

structure Agree (σ : List (Nat × FSt)) (g : G V) : Prop where
  fresh : ∀ f, lookupF σ f = none → g.ctxtOf f = none
  idle : ∀ f c, lookupF σ f = some (.idle c) → g.ctxtOf f = some c ∧ g.loc f = none

theorem Agree.cons {σ : List (Nat × FSt)} {g g' : G V} (ha : Agree σ g) (f : Nat) (st : FSt)
    (hother : ∀ f', f ≠ f' → g'.ctxtOf f' = g.ctxtOf f' ∧ g'.loc f' = g.loc f')
    (hst : ∀ c, st = .idle c → g'.ctxtOf f = some c ∧ g'.loc f = none) : Agree ((f, st) :: σ) g' := by
  constructor
  · intro f' h'
    simp only [lookupF] at h'
    split at h'
    · simp at h'
    · rename_i hne; rw [(hother f' hne).1]; exact ha.fresh f' h'
  · intro f' c' h'
    simp only [lookupF] at h'
    split at h'
    · rename_i e; subst e; exact hst c' (by simpa using h')
    · rename_i hne; rw [(hother f' hne).1, (hother f' hne).2]; exact ha.idle f' c' h'

/-- One use of a frame: guard scopes, closures, polls (C03) and spans (C04) are all this block. -/
theorem run_block {s : St V} {g : G V} {t c f : Nat} (hc : g.ctxtOf f = some c) (hl : g.loc f = none)
    {body : List (Ev V)} {s2 : St V} {g2 : G V}
    (hb : run (step s (.enter t c f)) (g.enter t c f) body = some (s2, g2)) (hst : g2.stack = (g.enter t c f).stack) :
    run s g (.enter t c f :: body ++ [.exit t c f]) = some (step s2 (.exit t c f), g2.exit t c f (g.stack t c)) ∧
    (g2.exit t c f (g.stack t c)).stack = g.stack := by
  have hstk : g2.stack t c = f :: g.stack t c := by rw [hst]; simp [G.enter, setStack]
  refine ⟨?_, ?_⟩
  · rw [List.cons_append, run_cons (WStep.enter t hc hl).wstep, run_append, hb]
    exact run_cons (WStep.exit hstk).wstep []
  · funext t' c'
    simp only [G.exit, hst, G.enter, setStack]
    split
    · rename_i h; rw [h.1, h.2]
    · rfl

/-- What a compiled program does to the ghost state: it runs (never gets stuck), leaves every stack as it
    found it, and keeps the scoping state in agreement. -/
def Balanced (σ : List (Nat × FSt)) (evs : List (Ev V)) (σ' : List (Nat × FSt)) : Prop :=
  ∀ (s : St V) (g : G V), Agree σ g → Inv s g →
    ∃ s' g', run s g evs = some (s', g') ∧ g'.stack = g.stack ∧ Agree σ' g'

mutual
theorem compile_balanced (p : SProg V) (t : Nat) (σ : List (Nat × FSt)) (evs : List (Ev V)) (σ' : List (Nat × FSt))
    (hc : compile t σ p = some (evs, σ')) : Balanced σ evs σ' := by
  intro s g ha hi
  cases p with
  | obs c =>
    simp [compile] at hc; obtain ⟨rfl, rfl⟩ := hc
    exact ⟨s, g, by simp [run, wstep, step], rfl, ha⟩
  | new f c kind ps =>
    simp only [compile] at hc
    split at hc <;> simp at hc
    obtain ⟨rfl, rfl⟩ := hc
    rename_i hl
    have hf := ha.fresh f hl
    refine ⟨_, g.open s t c f kind ps, run_cons (WStep.open t c f kind ps hf).wstep [], rfl, ?_⟩
    refine ha.cons f _ (fun f' hne => by simp [G.open, setSlot, Ne.symm hne]) fun c' e => ?_
    cases e
    exact ⟨by simp [G.open, setSlot], hi.loc_none hf⟩
  | use f m body =>
    simp only [compile] at hc
    split at hc <;> try simp at hc
    rename_i c hl
    split at hc <;> simp at hc
    rename_i ebody σb hcb
    obtain ⟨rfl, rfl⟩ := hc
    obtain ⟨hco, hlo⟩ := ha.idle f c hl
    have hi1 := inv_step hi _ _ (WStep.enter (m.thread t) hco hlo).wstep
    have ha1 : Agree ((f, FSt.entered) :: σ) (g.enter (m.thread t) c f) :=
      ha.cons f _ (fun f' hne => by simp [G.enter, setSlot, Ne.symm hne]) nofun
    obtain ⟨s2, g2, hr2, hst2, ha2⟩ := compileL_balanced body (m.thread t) _ ebody σb hcb _ _ ha1 hi1
    have hx := ext_run _ _ _ hr2
    have hr2' : run (step s (.enter (m.thread t) c f)) (g.enter (m.thread t) c f)
        ((if m.observes then [Ev.observe (m.thread t) c] else []) ++ ebody) = some (s2, g2) := by
      split <;> simpa [run, wstep, step] using hr2
    obtain ⟨hr3, hst3⟩ := run_block hco hlo hr2' hst2
    refine ⟨_, _, by simpa using hr3, hst3, ?_⟩
    refine ha2.cons f _ (fun f' hne => by simp [G.exit, setSlot, Ne.symm hne]) fun c' e => ?_
    split at e <;> cases e
    exact ⟨hx.ctxtOf _ _ (by simpa [G.enter] using hco), by simp [G.exit, setSlot]⟩
  | on t' body =>
    simp only [compile] at hc
    exact compileL_balanced body t' σ evs σ' hc s g ha hi
  | catch_ body =>
    simp only [compile] at hc
    exact compileL_balanced body t σ evs σ' hc s g ha hi
  | panic =>
    simp [compile] at hc; obtain ⟨rfl, rfl⟩ := hc
    exact ⟨s, g, by simp [run], rfl, ha⟩
  | drop f =>
    simp only [compile] at hc
    split at hc <;> simp at hc
    obtain ⟨rfl, rfl⟩ := hc
    exact ⟨s, g, by simp [run], rfl, ha.cons f _ (fun _ _ => ⟨rfl, rfl⟩) nofun⟩
  | parts f =>
    simp only [compile] at hc
    split at hc <;> simp at hc
    obtain ⟨rfl, rfl⟩ := hc
    exact ⟨s, g, by simp [run], rfl, ha⟩
theorem compileL_balanced (ps : List (SProg V)) (t : Nat) (σ : List (Nat × FSt)) (evs : List (Ev V))
    (σ' : List (Nat × FSt)) (hc : compileL t σ ps = some (evs, σ')) : Balanced σ evs σ' := by
  intro s g ha hi
  cases ps with
  | nil =>
    simp [compileL] at hc; obtain ⟨rfl, rfl⟩ := hc
    exact ⟨s, g, by simp [run], rfl, ha⟩
  | cons p ps =>
    simp only [compileL] at hc
    split at hc <;> try simp at hc
    rename_i e1 σ1 hc1
    obtain ⟨s1, g1, hr1, hst1, ha1⟩ := compile_balanced p t σ e1 σ1 hc1 s g ha hi
    split at hc
    · simp at hc; obtain ⟨rfl, rfl⟩ := hc
      exact ⟨s1, g1, hr1, hst1, ha1⟩
    · split at hc <;> simp at hc
      rename_i e2 σ2 hc2
      obtain ⟨rfl, rfl⟩ := hc
      obtain ⟨s2, g2, hr2, hst2, ha2⟩ := compileL_balanced ps t σ1 e2 σ2 hc2 s1 g1 ha1 (inv_run hi _ _ _ hr1)
      exact ⟨s2, g2, by simp [run_append, hr1, Option.bind, hr2], hst2.trans hst1, ha2⟩
end
end EmitModel.Ctxt
