import EmitModel.Model.Text

namespace EmitModel.Text

/-- so that `decide +kernel` can sweep the 256 numerals -/
theorem forall_uint8 {P : UInt8 → Prop} (h : ∀ n, n < 256 → P (UInt8.ofNat n)) : ∀ b, P b := by
  intro b
  have := h b.toNat b.toNat_lt
  simpa using this

/-- The fixed-offset parsers (`parse_rfc3339`, `Traceparent::try_from_str`) check separators by index and take fields
    by range; cutting at each separator in turn turns an accepted text into fields joined by separators. -/
theorem drop_cut (s : List UInt8) (a b : Nat) (c : UInt8) (hab : a ≤ b) (h : s[b]? = some c) :
    s.drop a = (s.drop a).take (b - a) ++ c :: s.drop (b + 1) := by
  obtain ⟨hb, rfl⟩ := List.getElem?_eq_some_iff.1 h
  conv => lhs; rw [← List.take_append_drop (b - a) (s.drop a)]
  rw [List.drop_drop, Nat.add_sub_cancel' hab, List.drop_eq_getElem_cons hb]

end EmitModel.Text
