/-
  Lemmas/FileSetSteps.lean — the atomic effects the worker can have on the filesystem (`FsStep`), and the two
  invariants each of them preserves: names stay unique (`NamesNodup`), and every member file's content stays
  `Good` (`GoodInv`, the chunk invariant).
-/
import EmitModel.Lemmas.FileSetChunks
import EmitModel.Lemmas.FileSetFs

namespace EmitModel.FileSet

def Ev.name : Ev → List Nat
  | .created n => n
  | .deleted n => n
  | .opened n => n

/-- The file `openNew` creates, as the model writes it. -/
def newFile : File := { synced := [], unsynced := [], durable := false }

section
variable (cfg : Config) (E : List Nat → Prop) (c : Nat) (N : List Nat → Prop)

def Mem (n : List Nat) : Prop := isMember cfg.pfx cfg.ext n = true

def CleanAt (s : St) (n : List Nat) : Prop := ∀ f, fsGet s.fs n = some f → Clean E c s.faulted f.content

/-- `N` says which names a `create` step may use (the name computed from the clock reading and id of the batch).
    `idle` stands for every call that leaves files and log alone (`read_dir`, a failed call, dropping the active
    file): only `op`, `active` and `faulted` move. Event bytes go only where the content is `Clean` (`CleanAt`), so
    that they form a record of their own; the separator may go anywhere, it is what makes the content clean. -/
inductive FsStep : St → St → Prop
  | idle {s s' : St} (hfs : s'.fs = s.fs) (hlog : s'.log = s.log) (hf : s.faulted = true → s'.faulted = true) :
      FsStep s s'
  | crash {s s' : St} (lose : List Nat) (d : Bool) (hfs : s'.fs = crashFs lose d s.fs) (hlog : s'.log = s.log)
      (hf : s'.faulted = true) : FsStep s s'
  | create {s s' : St} (n : List Nat) (hm : Mem cfg n) (hN : N n) (hnone : fsGet s.fs n = none)
      (hfs : s'.fs = s.fs ++ [(n, newFile)]) (hlog : s'.log = s.log ++ [.created n])
      (hf : s.faulted = true → s'.faulted = true) : FsStep s s'
  | syncParent {s s' : St} (hfs : s'.fs = s.fs.map fun e => (e.1, e.2.setDurable))
      (hlog : s'.log = s.log) (hf : s.faulted = true → s'.faulted = true) : FsStep s s'
  | opened {s s' : St} (n : List Nat) (hm : Mem cfg n) (hfs : s'.fs = s.fs) (hlog : s'.log = s.log ++ [.opened n])
      (hf : s.faulted = true → s'.faulted = true) : FsStep s s'
  | appendSep {s s' : St} (n : List Nat) (hm : Mem cfg n) (hfs : s'.fs = appendBytes s.fs n [c])
      (hlog : s'.log = s.log) (hf : s.faulted = true → s'.faulted = true) : FsStep s s'
  | appendEvt {s s' : St} (n e : List Nat) (hm : Mem cfg n) (he : E e) (hclean : CleanAt E c s n)
      (hfs : s'.fs = appendBytes s.fs n e) (hlog : s'.log = s.log) (hf : s.faulted = true → s'.faulted = true) :
      FsStep s s'
  | appendTrunc {s s' : St} (n p : List Nat) (hm : Mem cfg n) (hp : IsTrunc E p) (hclean : CleanAt E c s n)
      (hfs : s'.fs = appendBytes s.fs n p) (hlog : s'.log = s.log) (hf : s'.faulted = true) : FsStep s s'
  | syncAll {s s' : St} (n : List Nat) (f : File) (hm : Mem cfg n) (hget : fsGet s.fs n = some f)
      (hfs : s'.fs = fsSet s.fs n f.syncedAll)
      (hlog : s'.log = s.log) (hf : s.faulted = true → s'.faulted = true) : FsStep s s'
  | remove {s s' : St} (n : List Nat) (hm : Mem cfg n) (hsome : fsGet s.fs n ≠ none) (hfs : s'.fs = fsErase s.fs n)
      (hlog : s'.log = s.log ++ [.deleted n]) (hf : s.faulted = true → s'.faulted = true) : FsStep s s'

inductive FsSteps : St → St → Prop
  | refl (s : St) : FsSteps s s
  | tail {s s' s'' : St} : FsSteps s s' → FsStep cfg E c N s' s'' → FsSteps s s''

variable {cfg E c N}

theorem FsSteps.single {s s' : St} (h : FsStep cfg E c N s s') : FsSteps cfg E c N s s' := .tail (.refl s) h

theorem FsSteps.trans {s s' s'' : St} (h1 : FsSteps cfg E c N s s') (h2 : FsSteps cfg E c N s' s'') :
    FsSteps cfg E c N s s'' := by
  induction h2 with
  | refl => exact h1
  | tail _ hstep ih => exact .tail ih hstep

theorem FsStep.faulted_mono {s s' : St} (h : FsStep cfg E c N s s') : s.faulted = true → s'.faulted = true := by
  cases h <;> first | assumption | (intro _; assumption)

theorem FsSteps.faulted_mono {s s' : St} (h : FsSteps cfg E c N s s') : s.faulted = true → s'.faulted = true := by
  induction h with
  | refl => exact fun h => h
  | tail _ hstep ih => exact fun h => hstep.faulted_mono (ih h)

def NamesNodup (s : St) : Prop := (names s.fs).Nodup

theorem FsStep.nodup {s s' : St} (h : FsStep cfg E c N s s') (hn : NamesNodup s) : NamesNodup s' := by
  unfold NamesNodup at *
  cases h with
  | idle hfs | opened _ _ hfs => rw [hfs]; exact hn
  | crash lose d hfs => rw [hfs]; exact (names_crashFs_sublist lose d s.fs).nodup hn
  | create n _ _ hnone hfs =>
    rw [hfs, names, List.map_append]
    refine List.nodup_append.2 ⟨hn, by simp, fun a ha b hb e => fsGet_eq_none_iff.1 hnone ?_⟩
    cases List.mem_singleton.1 hb
    cases e
    exact ha
  | syncParent hfs => rw [hfs, names_map _ File.setDurable]; exact hn
  | appendSep _ _ hfs | appendEvt _ _ _ _ _ hfs | appendTrunc _ _ _ _ _ hfs => rw [hfs, names_appendBytes]; exact hn
  | syncAll n f _ hget hfs => rw [hfs, names_fsSet_of_mem _ (mem_names_of_fsGet hget)]; exact hn
  | remove n _ _ hfs => rw [hfs, names_fsErase]; exact hn.filter _

theorem FsSteps.nodup {s s' : St} (h : FsSteps cfg E c N s s') (hn : NamesNodup s) : NamesNodup s' := by
  induction h with
  | refl => exact hn
  | tail _ hstep ih => exact hstep.nodup ih

def GoodInv (cfg : Config) (E : List Nat → Prop) (c : Nat) (s : St) : Prop :=
  ∀ n f, fsGet s.fs n = some f → Mem cfg n → Good E c s.faulted f.content

theorem goodInv_append {s s' : St} {n bytes : List Nat} (hfs : s'.fs = appendBytes s.fs n bytes)
    (hf : s.faulted = true → s'.faulted = true) (hg : GoodInv cfg E c s)
    (hn : ∀ f, fsGet s.fs n = some f → Good E c s'.faulted (f.content ++ bytes)) : GoodInv cfg E c s' := by
  intro m g hget hm
  rw [hfs] at hget
  by_cases hmn : m = n
  · subst hmn
    cases hget0 : fsGet s.fs m with
    | none => rw [appendBytes_of_none _ hget0, hget0] at hget; cases hget
    | some f =>
      rw [fsGet_appendBytes_same _ hget0] at hget
      cases hget
      simpa [File.content] using hn f hget0
  · rw [fsGet_appendBytes_ne _ _ hmn] at hget; exact (hg m g hget hm).mono hf

theorem FsStep.goodInv {s s' : St} (h : FsStep cfg E c N s s') (hn : NamesNodup s) (hg : GoodInv cfg E c s) :
    GoodInv cfg E c s' := by
  intro m g hget hm
  cases h with
  | idle hfs _ hf | opened _ _ hfs _ hf => rw [hfs] at hget; exact (hg m g hget hm).mono hf
  | crash lose d hfs _ hf =>
    rw [hfs, fsGet_crashFs lose d hn] at hget
    obtain ⟨f, hget0, hget⟩ := Option.bind_eq_some_iff.1 hget
    split at hget <;> cases hget
    rw [hf, crashFile_content]
    exact (hg m f hget0 hm).take _
  | create n _ _ hnone hfs _ hf =>
    rw [hfs] at hget
    cases hget0 : fsGet s.fs m with
    | none =>
      rw [fsGet_append_of_none _ hget0] at hget
      simp only [fsGet] at hget
      split at hget
      · cases hget; exact Good.nil
      · cases hget
    | some f =>
      rw [fsGet_append_of_some _ hget0] at hget
      cases hget; exact (hg m _ hget0 hm).mono hf
  | syncParent hfs _ hf =>
    rw [hfs, fsGet_map _ File.setDurable] at hget
    obtain ⟨f, hget0, rfl⟩ := Option.map_eq_some_iff.1 hget
    exact (hg m f hget0 hm).mono hf
  | appendSep n hmn hfs _ hf =>
    exact goodInv_append hfs hf hg (fun f hf0 => ((hg n f hf0 hmn).append_sep.good.mono hf)) m g hget hm
  | appendEvt n e _ he hclean hfs _ hf =>
    exact goodInv_append hfs hf hg (fun f hf0 => (Clean.evt (hclean f hf0) he).good.mono hf) m g hget hm
  | appendTrunc n p _ hp hclean hfs _ hf =>
    exact goodInv_append hfs (fun _ => hf) hg
      (fun f hf0 => ((hclean f hf0).mono (t' := s'.faulted) (fun _ => hf)).append_trunc hf hp) m g hget hm
  | syncAll n f _ hget0 hfs _ hf =>
    rw [hfs] at hget
    by_cases hmn : m = n
    · subst hmn
      rw [fsGet_fsSet_same] at hget
      cases hget
      have := (hg m f hget0 hm).mono hf
      simpa [File.content, File.syncedAll] using this
    · rw [fsGet_fsSet_ne _ _ hmn] at hget; exact (hg m g hget hm).mono hf
  | remove n _ _ hfs _ hf =>
    rw [hfs] at hget
    by_cases hmn : m = n
    · subst hmn; rw [fsGet_fsErase_same] at hget; cases hget
    · rw [fsGet_fsErase_ne _ hmn] at hget; exact (hg m g hget hm).mono hf

theorem FsSteps.goodInv {s s' : St} (h : FsSteps cfg E c N s s') (hn : NamesNodup s) (hg : GoodInv cfg E c s) :
    GoodInv cfg E c s' := by
  induction h with
  | refl => exact hg
  | tail hsteps hstep ih => exact hstep.goodInv (hsteps.nodup hn) ih

end

end EmitModel.FileSet
