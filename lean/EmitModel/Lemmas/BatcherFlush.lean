/-
  Lemmas/BatcherFlush.lean — the inductive invariant behind C07 `flush_sound`: where a flush watcher sits (ran, attached
  to the pending batch, travelling with the batch in hand) bounds where the items of its obligation may still be.
-/
import EmitModel.Lemmas.Batcher
namespace EmitModel.Batcher
open EmitModel.Sched

/-- The item is through: its batch's last attempt has concluded, or it was cleared by a counted truncation. -/
def Done (s : St) (x : Nat) : Prop := x ∈ s.finalised ∨ x ∈ s.truncations.flatten

/-- `fired_ok` is the claim behind C07 `flush_sound`; `pend_ok` and `infl_ok` are its inductive forms for a watcher
    still attached to the pending batch resp. travelling with the batch in hand. The `*_reg` fields say that whoever
    sits anywhere, or has an obligation, was registered (so a fresh name has none); `open_`, `taken_closed` and
    `inflight_flag` tie `isOpen` / `inBatch`, which `when_flushed` reads, to where the sender and the batch are. -/
structure InvFlush (s : St) : Prop where
  open_ : s.senderAlive = true → s.isOpen = true
  taken_closed : ∀ b tw fw, s.rx = .taken b tw fw false → s.senderAlive = false
  inflight_flag : s.rx.inflight ≠ [] → s.inBatch = true
  fired_ok : ∀ w obs, (w, obs) ∈ s.obligations → w ∈ s.fired → ∀ x ∈ obs, Done s x
  pend_ok : ∀ w obs, (w, obs) ∈ s.obligations → w ∈ s.pendFlushW →
    ∀ x ∈ obs, x ∈ s.pending ∨ x ∈ s.rx.inflight ∨ Done s x
  infl_ok : ∀ w obs, (w, obs) ∈ s.obligations → w ∈ s.rx.ws → ∀ x ∈ obs, x ∈ s.rx.inflight ∨ Done s x
  oblig_reg : ∀ w obs, (w, obs) ∈ s.obligations → w ∈ s.registered
  fired_reg : ∀ w ∈ s.fired, w ∈ s.registered
  pend_reg : ∀ w ∈ s.pendFlushW, w ∈ s.registered
  ws_reg : ∀ w ∈ s.rx.ws, w ∈ s.registered

macro "flush_split" hs:ident : tactic => `(tactic| (
  repeat' (split at $hs:ident)
  all_goals (first | (simp at $hs:ident; done) | skip)
  all_goals (simp only [Option.some.injEq] at $hs:ident; subst $hs:ident)))

attribute [local simp] Done

/-- `W` is a place a watcher sits in, `P` what the place promises of the items of its obligation: watchers may move
    to a place, and items to places, that promise no more. -/
theorem cov_mono {O : List (Nat × List Nat)} {W W' : List Nat} {P P' : Nat → Prop}
    (h : ∀ w obs, (w, obs) ∈ O → w ∈ W → ∀ x ∈ obs, P x) (hW : ∀ w ∈ W', w ∈ W) (hP : ∀ x, P x → P' x) :
    ∀ w obs, (w, obs) ∈ O → w ∈ W' → ∀ x ∈ obs, P' x :=
  fun w obs ho hw x hx => hP x (h w obs ho (hW w hw) x hx)

theorem cov_snoc {O : List (Nat × List Nat)} {W : List Nat} {P : Nat → Prop} {w : Nat}
    (h : ∀ w obs, (w, obs) ∈ O → w ∈ W → ∀ x ∈ obs, P x) (hw : ∀ obs, (w, obs) ∈ O → ∀ x ∈ obs, P x) :
    ∀ w' obs, (w', obs) ∈ O → w' ∈ W ++ [w] → ∀ x ∈ obs, P x := fun w' obs ho hm => by
  rcases List.mem_append.mp hm with hm | hm
  · exact h w' obs ho hm
  · cases List.mem_singleton.mp hm; exact hw obs ho

theorem cov_new {O : List (Nat × List Nat)} {W W' : List Nat} {P : Nat → Prop} {w : Nat} {obs0 : List Nat}
    (h : ∀ w obs, (w, obs) ∈ O → w ∈ W → ∀ x ∈ obs, P x) (hfresh : ∀ obs, (w, obs) ∉ O)
    (hW : ∀ w' ∈ W', w' ∈ W ∨ w' = w) (hnew : w ∈ W' → ∀ x ∈ obs0, P x) :
    ∀ w' obs, (w', obs) ∈ O ++ [(w, obs0)] → w' ∈ W' → ∀ x ∈ obs, P x := fun w' obs hm hw' => by
  rcases List.mem_append.mp hm with hm | hm
  · rcases hW w' hw' with hw | hw
    · exact h w' obs hm hw
    · exact absurd (hw ▸ hm) (hfresh obs)
  · cases List.mem_singleton.mp hm; exact hnew hw'

theorem InvFlush.truncate {s : St} (h : InvFlush s) : InvFlush (truncate s) := by
  have hd : ∀ x, x ∈ s.pending ∨ Done s x → Done (Batcher.truncate s) x := fun x hx => by
    simp only [Done, Batcher.truncate, List.flatten_append, List.mem_append] at hx ⊢
    rcases hx with hx | hx | hx <;> simp [hx]
  exact { h with
    fired_ok := cov_mono h.fired_ok (fun _ hw => hw) fun x hx => hd x (.inr hx)
    pend_ok := cov_mono h.pend_ok (fun _ hw => hw) fun x hx => .inr (hx.elim (fun hp => .inr (hd x (.inl hp)))
      (Or.imp_right fun hx => hd x (.inr hx)))
    infl_ok := cov_mono h.infl_ok (fun _ hw => hw) fun x hx => hx.imp_right fun hx => hd x (.inr hx) }

theorem InvFlush.push {s : St} (h : InvFlush s) (x : Nat) : InvFlush (push s x) :=
  { h with pend_ok := cov_mono h.pend_ok (fun _ hw => hw) fun _ hy => hy.imp_left (List.mem_append_left _) }

theorem InvFlush.sender_gone_of_closed {s : St} (h : InvFlush s) (hc : s.isOpen = false) : s.senderAlive = false :=
  Bool.eq_false_iff.mpr fun ha => by simp [h.open_ ha] at hc

/-- `when_flushed` first records the obligation of the new watcher `w`; `w` sits nowhere yet. `acc` is what the
    step makes of `acceptedAt`, which `InvFlush` does not read. -/
theorem InvFlush.register {s : St} (h : InvFlush s) {w : Nat} (fresh : w ∉ s.registered) (acc : List (Nat × List Nat)) :
    InvFlush { s with registered := s.registered ++ [w],
                      obligations := s.obligations ++ [(w, s.pending ++ s.rx.inflight)], acceptedAt := acc } ∧
    ∀ obs, (w, obs) ∈ s.obligations ++ [(w, s.pending ++ s.rx.inflight)] → obs = s.pending ++ s.rx.inflight := by
  have fo : ∀ obs, (w, obs) ∉ s.obligations := fun obs ho => fresh (h.oblig_reg w obs ho)
  have reg : ∀ {W : List Nat}, (∀ w' ∈ W, w' ∈ s.registered) → ∀ w' ∈ W, w' ∈ s.registered ++ [w] :=
    fun hW w' hw' => List.mem_append_left _ (hW w' hw')
  refine ⟨{ h with
    fired_ok := cov_new h.fired_ok fo (fun _ hw' => .inl hw') fun hm => absurd (h.fired_reg w hm) fresh
    pend_ok := cov_new h.pend_ok fo (fun _ hw' => .inl hw') fun hm => absurd (h.pend_reg w hm) fresh
    infl_ok := cov_new h.infl_ok fo (fun _ hw' => .inl hw') fun hm => absurd (h.ws_reg w hm) fresh
    oblig_reg := fun w' obs hm => ?_
    fired_reg := reg h.fired_reg, pend_reg := reg h.pend_reg, ws_reg := reg h.ws_reg }, fun obs hm => ?_⟩
  · rcases List.mem_append.mp hm with hm | hm
    · exact List.mem_append_left _ (h.oblig_reg w' obs hm)
    · cases List.mem_singleton.mp hm; exact List.mem_append_right _ (.head _)
  · rcases List.mem_append.mp hm with hm | hm
    · exact absurd hm (fo obs)
    · cases List.mem_singleton.mp hm; rfl

/-- The inductive form. Distinct watcher names and no teardown are premises of the invariant, not of the theorems: a
    step can end either (a name registered twice; `dropReceiver`), and nothing is claimed from then on. -/
def InvF (s : St) : Prop := s.registered.Nodup → s.tornDown = false → InvFlush s

theorem invF_step (cfg : Cfg) (s : St) (l : Label) (s' : St) (h : InvF s) (hs : step cfg s l = some s') :
    InvF s' := by
  intro hn ht
  cases Step.of_step hs with
  | whenFlushedNow s w ha hb hp =>
    -- the channel is open (the sender is there), so the queue is empty; nothing is in flight: nothing to wait for
    obtain ⟨hn, -, hw⟩ := List.nodup_append.mp hn
    have h0 := h hn ht
    obtain ⟨h, hobs⟩ := h0.register (fun hm => hw w hm w (.head _) rfl) (s.acceptedAt ++ [(w, s.accepted)])
    have hp : s.pending = [] := hp.resolve_right (by simp [h0.open_ ha])
    have hi : s.rx.inflight = [] := Decidable.byContradiction fun hi => nomatch hb.symm.trans (h0.inflight_flag hi)
    exact { h with
      fired_ok := cov_snoc h.fired_ok fun obs ho x hx => by rw [hobs obs ho, hp, hi] at hx; cases hx
      fired_reg := List.forall_mem_append.mpr ⟨h.fired_reg, fun _ hw' => List.mem_append_right _ hw'⟩ }
  | whenFlushedLater s w =>
    obtain ⟨hn, -, hw⟩ := List.nodup_append.mp hn
    obtain ⟨h, hobs⟩ := (h hn ht).register (fun hm => hw w hm w (.head _) rfl) (s.acceptedAt ++ [(w, s.accepted)])
    exact { h with
      pend_ok := cov_snoc h.pend_ok fun obs ho x hx => by
        rw [hobs obs ho] at hx
        exact (List.mem_append.mp hx).imp_right .inl
      pend_reg := List.forall_mem_append.mpr ⟨h.pend_reg, fun _ hw' => List.mem_append_right _ hw'⟩ }
  | dropReceiver => cases ht
  | sendTrunc s x => exact (h hn ht).truncate.push x
  | sendTruncClosed => exact (h hn ht).truncate
  | send s x | trySend s x => exact (h hn ht).push x
  | take s =>
    have h := h hn ht
    exact { h with
      taken_closed := fun _ _ _ e => h.sender_gone_of_closed (by injection e)
      inflight_flag := fun hp => by simpa [List.isEmpty_iff] using hp
      pend_ok := nofun, infl_ok := by simpa using h.pend_ok, pend_reg := nofun, ws_reg := h.pend_reg }
  | fireTake s b w tw fw o =>
    have h := h hn ht
    exact { h with taken_closed := fun _ _ _ e => by cases e; exact h.taken_closed _ _ _ rfl }
  | fireFlushEmpty s w fw o =>
    -- nothing is in flight, so what the watcher waited for is through
    have h := h hn ht
    exact { h with
      taken_closed := fun _ _ _ e => by cases e; exact h.taken_closed _ _ _ rfl
      fired_ok := cov_snoc h.fired_ok fun obs ho x hx => (h.infl_ok w obs ho (.head _) x hx).resolve_left nofun
      infl_ok := fun w' obs ho hw' => h.infl_ok w' obs ho (.tail _ hw')
      fired_reg := List.forall_mem_append.mpr ⟨h.fired_reg, fun _ hw' => List.mem_singleton.mp hw' ▸ h.ws_reg w (.head _)⟩
      ws_reg := fun w' hw' => h.ws_reg w' (.tail _ hw') }
  | fireFlush s w ws =>
    have h := h hn ht
    exact { h with
      taken_closed := fun _ _ _ e => by simp at e, inflight_flag := by simp
      fired_ok := cov_snoc h.fired_ok fun obs ho x hx => (h.infl_ok w obs ho (.head _) x hx).resolve_left nofun
      pend_ok := by simpa using h.pend_ok
      infl_ok := fun w' obs ho hw' x hx =>
        .inr ((h.infl_ok w' obs ho (List.mem_cons_of_mem _ (by simpa using hw')) x hx).resolve_left nofun)
      fired_reg := List.forall_mem_append.mpr ⟨h.fired_reg, fun _ hw' => List.mem_singleton.mp hw' ▸ h.ws_reg w (.head _)⟩
      ws_reg := fun w' hw' => h.ws_reg w' (List.mem_cons_of_mem _ (by simpa using hw')) }
  | sendClosed | trySendRefused => exact h hn ht
  | whenEmptyNow | whenEmptyLater => exact { h hn ht with }
  | begin | retry | retryWaited | idleWaited | idleWait => exact { h hn ht with taken_closed := nofun }
  | «return» =>
    have h := h hn ht
    exact { h with open_ := fun ha => Bool.noConfusion ((h.taken_closed _ _ _ rfl).symm.trans ha), taken_closed := nofun }
  | dropSender => exact { h hn ht with open_ := nofun, taken_closed := fun _ _ _ _ => rfl }
  | conclude s o orig cur ws =>
    have h := h hn ht
    have hd : ∀ x, x ∈ orig ∨ (x ∈ s.finalised ∨ x ∈ s.truncations.flatten) →
        x ∈ s.finalised ++ orig ∨ x ∈ s.truncations.flatten := fun x hx => by
      rw [List.mem_append]
      rcases hx with hx | hx | hx <;> simp [hx]
    exact { h with
      taken_closed := fun _ _ _ e => by simp at e, inflight_flag := by simp
      fired_ok := cov_mono h.fired_ok (fun _ hw => hw) fun x hx => hd x (.inr hx)
      pend_ok := cov_mono h.pend_ok (fun _ hw => hw) fun x hx => hx.imp_right fun hx => .inr (hd x hx)
      infl_ok := cov_mono h.infl_ok (by simp) fun x hx => .inr (hd x hx)
      ws_reg := by simpa using h.ws_reg }

theorem invF_reachable (cfg : Cfg) (s : St) (h : Reachable cfg s) : InvF s :=
  invariant_of_step (fun _ _ => by constructor <;> simp [init]) (invF_step cfg) s h

end EmitModel.Batcher
