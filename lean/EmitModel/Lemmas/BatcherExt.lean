/-
  Lemmas/BatcherExt.lean — the extended batcher system (`BSt`, `BLabel`, `bstep`: the base LTS plus the first attempt
  of a blocking / async send and the `queue_full_blocked` counter), the two metric counters as exact counts, the
  remaining-time accounting of `send_or_wait`, and what a watcher callback may do (sender steps). Used by C06 – C09.
-/
import EmitModel.Lemmas.Batcher

namespace EmitModel.Batcher
open EmitModel.Sched

/-- The base label a label of the extended system performs on the channel state. -/
def BLabel.erase : BLabel → Label
  | .base l => l
  | .sendOrWaitFirst x => .trySend x

theorem sendOrWaitFirst_eq (cfg : Cfg) (b : BSt) (x : Nat) :
    sendOrWaitFirst cfg b x =
      ({ st := (trySend cfg b.st x).1, mBlocked := b.mBlocked + if (trySend cfg b.st x).2 = .ok then 0 else 1 },
       (trySend cfg b.st x).2) := by
  unfold sendOrWaitFirst
  cases hts : trySend cfg b.st x with
  | mk s r => cases r <;> rfl

/-- Every step of the extended system is a step of the base system on the channel state. -/
theorem bstep_erase (cfg : Cfg) (b b' : BSt) (l : BLabel) (h : bstep cfg b l = some b') :
    step cfg b.st l.erase = some b'.st := by
  cases l with
  | base l =>
    simp only [bstep, Option.map_eq_some_iff] at h
    obtain ⟨s, hs, rfl⟩ := h
    simpa [BLabel.erase] using hs
  | sendOrWaitFirst x =>
    simp only [bstep] at h
    by_cases ha : b.st.senderAlive
    · simp only [ha, if_true, Option.some.injEq] at h
      subst h
      simp [BLabel.erase, step, ha, sendOrWaitFirst_eq]
    · simp [ha] at h

/-- `queue_full_truncated` moves in exactly one place: a plain `send` that finds the queue full. -/
theorem step_mTruncated (cfg : Cfg) (s s' : St) (l : Label) (hs : step cfg s l = some s') :
    s'.mTruncated = s.mTruncated +
      (match l with | .send _ => if s.pending.length ≥ cfg.cap then 1 else 0 | _ => 0) := by
  cases Step.of_step hs with
  | sendTrunc s x _ hf | sendTruncClosed s x _ hf => simp [hf]
  | send s x _ hf | sendClosed s x _ hf => simp [Nat.not_le.mpr hf]
  | _ => rfl

theorem bstep_counters (cfg : Cfg) (b b' : BSt) (l : BLabel) (h : bstep cfg b l = some b') :
    b'.st.mTruncated = b.st.mTruncated + truncatingSend cfg b l ∧
    b'.mBlocked = b.mBlocked + blockedSend cfg b l := by
  cases l with
  | base l =>
    simp only [bstep, Option.map_eq_some_iff] at h
    obtain ⟨s, hs, rfl⟩ := h
    refine ⟨?_, by simp [blockedSend]⟩
    have := step_mTruncated cfg b.st s l hs
    cases l <;> simpa [truncatingSend] using this
  | sendOrWaitFirst x =>
    have hb := bstep_erase cfg b b' _ h
    simp only [bstep] at h
    split at h
    · cases h
      exact ⟨by simpa [truncatingSend, BLabel.erase] using step_mTruncated cfg b.st _ _ hb,
        by simp [blockedSend, sendOrWaitFirst_eq]⟩
    · cases h

theorem brun_counters (cfg : Cfg) (ls : List BLabel) : ∀ (b b' : BSt), run (bstep cfg) b ls = some b' →
    b'.st.mTruncated = b.st.mTruncated + countAlong cfg (truncatingSend cfg) b ls ∧
    b'.mBlocked = b.mBlocked + countAlong cfg (blockedSend cfg) b ls := by
  induction ls with
  | nil => intro b b' h; cases h; exact ⟨rfl, rfl⟩
  | cons l ls ih =>
    intro b b' h
    obtain ⟨b1, hb, h⟩ := run_cons_eq_some.mp h
    obtain ⟨h1, h2⟩ := bstep_counters cfg b b1 l hb
    obtain ⟨i1, i2⟩ := ih b1 b' h
    simp only [countAlong, hb]
    constructor <;> omega

/-- See `C08.send_or_wait_within_budget` / `C09.send_or_wait_total_wait_bound`. -/
theorem sendOrWait_within_budget (δ timeout : Nat) (obs : List (Nat × TryRes)) :
    ∀ (bound : Nat) (err : TryRes) (t : Nat), bound ≤ timeout + δ → sendOrWaitHonest δ timeout bound err obs →
      sendOrWaitLastReading timeout err obs = some t → t ≤ timeout + δ := by
  intro bound err t
  fun_induction sendOrWaitLastReading timeout err obs generalizing bound
  case case1 | case2 => exact nofun   -- no reading: no observation left, or the attempt before succeeded
  case case6 el nx rest _ hge t' hne _ ih =>   -- full again after the wait: the loop goes round
    -- the next reading comes at most `δ` after the remaining time that was asked for
    intro _ hh ht
    refine ih (el + (timeout - el) + δ) (by omega) ?_ (by cases ht; assumption)
    unfold sendOrWaitHonest at hh
    cases nx <;> simp_all
  all_goals
    -- the call returns at this reading, which came within its bound
    intro hb hh ht
    unfold sendOrWaitHonest at hh
    cases ht
    omega

theorem sendOrWaitLoop_spec (timeout x : Nat) (r : SendRes) : ∀ (e : TryRes) (obs : List (Nat × TryRes)), e ≠ .ok →
    (∀ y, e = .full y → y = x) → (∀ p ∈ obs, ∀ y, p.2 = .full y → y = x) → sendOrWaitLoop timeout e obs = some r →
      (r = .ok ∧ ∃ p ∈ obs, p.2 = .ok) ∨ r = .handedBack x ∨
      (r = .errNoItem ∧ (e = .closed ∨ ∃ p ∈ obs, p.2 = .closed)) := by
  intro e obs
  fun_induction sendOrWaitLoop timeout e obs
  case case6 el nx rest y hge hne ih =>   -- full again after the wait: the loop goes round
    intro _ _ hobs h
    rcases ih (fun e => hne e) (fun z e => hobs (el, nx) (.head _) z e) (fun p hp => hobs p (.tail _ hp)) h with
      ⟨a, p, hp, ho⟩ | a | ⟨a, b⟩
    · exact .inl ⟨a, p, .tail _ hp, ho⟩
    · exact .inr (.inl a)
    · exact .inr (.inr ⟨a, .inr (b.elim (fun e => ⟨(el, nx), .head _, e⟩) fun ⟨p, hp, hc⟩ => ⟨p, .tail _ hp, hc⟩)⟩)
  all_goals intro hne he hobs h
  all_goals first | exact absurd rfl hne | cases h
  case case4 => exact .inr (.inl (congrArg _ (he _ rfl)))   -- timed out at this reading: the item is handed back
  case case5 => exact .inl ⟨rfl, (_, .ok), .head _, rfl⟩   -- the `try_send` after the wait succeeds
  all_goals exact .inr (.inr ⟨rfl, .inl rfl⟩)

/-- The sender-side labels: what any code holding the `Sender` — in particular a `when_empty` / `when_flushed`
    callback that re-enters the channel — can perform. -/
def Label.isSender : Label → Bool
  | .send _ | .trySend _ | .whenFlushed _ | .whenEmpty _ | .dropSender => true
  | _ => false

/-- A sender step leaves everything the receiver holds alone (control point, the batch it took, its watchers) and
    hands nothing to the processor. -/
theorem sender_step_rx (cfg : Cfg) (s s' : St) (l : Label) (hl : l.isSender = true) (hs : step cfg s l = some s') :
    s'.rx = s.rx ∧ s'.calls = s.calls ∧ s'.firstAttempts = s.firstAttempts := by
  cases Step.of_step hs with
  | take | fireTake | fireFlushEmpty | fireFlush | begin | «return» | idleWait | retry | conclude |
      retryWaited | idleWaited | dropReceiver => cases hl
  | _ => exact ⟨rfl, rfl, rfl⟩

theorem sender_run_rx (cfg : Cfg) (ls : List Label) (s s' : St) (hl : ∀ l ∈ ls, l.isSender = true)
    (h : run (step cfg) s ls = some s') : s'.rx = s.rx ∧ s'.calls = s.calls ∧ s'.firstAttempts = s.firstAttempts :=
  run_invariant_of (Inv := fun t => t.rx = s.rx ∧ t.calls = s.calls ∧ t.firstAttempts = s.firstAttempts)
    (fun a l b hl ⟨a1, a2, a3⟩ hs => by
      obtain ⟨b1, b2, b3⟩ := sender_step_rx cfg a b l hl hs
      exact ⟨b1.trans a1, b2.trans a2, b3.trans a3⟩) ls s s' hl ⟨rfl, rfl, rfl⟩ h

/-- With the `Sender` in hand every sender label is enabled in EVERY state — whatever the receiver is doing. -/
theorem sender_enabled (cfg : Cfg) (s : St) (l : Label) (hl : l.isSender = true) (ha : s.senderAlive = true) :
    (step cfg s l).isSome = true := by
  cases l <;> simp [Label.isSender] at hl <;> simp [step, ha]

end EmitModel.Batcher
