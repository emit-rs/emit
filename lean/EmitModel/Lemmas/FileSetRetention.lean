/-
  Lemmas/FileSetRetention.lean — fault-free runs: which calls leave the set of names alone, and the two halves of
  the bound on the number of member files after an `on_batch`: the choice of the file, and that nothing after it
  changes a name.
-/
import EmitModel.Lemmas.FileSetAcked
import EmitModel.Lemmas.FileSetOk

namespace EmitModel.FileSet

theorem memberCount_congr {cfg : Config} {fs fs' : List (List Nat × File)} (h : names fs' = names fs) :
    memberCount cfg fs' = memberCount cfg fs := by simp [memberCount, h]

theorem memberSet_congr {cfg : Config} {fs fs' : List (List Nat × File)} (h : names fs' = names fs) :
    memberSet cfg fs' = memberSet cfg fs := by simp [memberSet, h]

theorem openExisting_okPlan (n : List Nat) (s : St) :
    openExisting okPlan n s = .err s.tick ∨
      openExisting okPlan n s = .ok () { s.tick with log := s.log ++ [.opened n] } := by
  unfold openExisting
  rw [simpleOp_okPlan]
  cases fsGet s.tick.fs n with
  | none => exact .inl rfl
  | some f => exact .inr rfl

theorem syncParent_okPlan (s : St) :
    syncParent okPlan s = .ok () { s.tick with fs := s.fs.map fun e => (e.1, e.2.setDurable) } := rfl

theorem fileLen_okPlan (n : List Nat) (s : St) :
    fileLen okPlan n s = .err s.tick ∨ ∃ l, fileLen okPlan n s = .ok l s.tick := by
  unfold fileLen
  rw [simpleOp_okPlan]
  cases fsGet s.tick.fs n with
  | none => exact .inl rfl
  | some f => exact .inr ⟨_, rfl⟩

theorem tryOpenReuse_names (cfg : Config) (n : List Nat) (s : St) :
    names (tryOpenReuse cfg okPlan n s).st.fs = names s.fs := by
  unfold tryOpenReuse
  split
  · rfl
  · rcases openExisting_okPlan n s with h | h <;> rw [h]
    · rfl
    · simp only [syncParent_okPlan]
      rcases fileLen_okPlan n _ with h' | ⟨l, h'⟩ <;> rw [h'] <;> exact names_map _ File.setDurable

theorem writeAll_okPlan (n buf : List Nat) (s : St) : ∃ s', writeAll okPlan n buf s = .ok () s' := by
  unfold writeAll
  split <;> exact ⟨_, rfl⟩

theorem writeEvent_okPlan (cfg : Config) (a : Active) (e : List Nat) (s : St) :
    ∃ a' s', writeEvent cfg okPlan a e s = .ok a' s' := by
  unfold writeEvent
  obtain ⟨s1, h1⟩ : ∃ s1, (if a.needsRecovery then writeAll okPlan a.name cfg.sep s else .ok () s) = .ok () s1 := by
    split
    · exact writeAll_okPlan _ _ _
    · exact ⟨_, rfl⟩
  obtain ⟨s2, h2⟩ := writeAll_okPlan a.name e s1
  simp only [h1, h2]
  exact ⟨_, _, rfl⟩

theorem writeEvents_okPlan (cfg : Config) (evs : List (List Nat)) :
    ∀ (a : Active) (b : Batch) (s : St), ∃ a' s', writeEvents cfg okPlan a b s evs = (.ok, some a', s') := by
  induction evs with
  | nil => intro a b s; exact ⟨a, s, rfl⟩
  | cons e rest ih =>
    intro a b s
    obtain ⟨a1, s1, h1⟩ := writeEvent_okPlan cfg a e s
    simp only [writeEvents, h1]
    exact ih _ _ _

theorem syncAll_okPlan (n : List Nat) (s : St) : syncAll okPlan n s = .ok () { s.tick with fs := syncFile s.fs n } := by
  rw [syncAll_eq]; rfl

/-- Without faults a batch whose file could be chosen is acknowledged; so nothing after the choice changes a name. -/
theorem onBatch_names_after_acquire (cfg : Config) (now : Parts) (id : Nat) (b : Batch) (s : St) :
    names (onBatch cfg okPlan now id b s).2.fs = names (acquire cfg okPlan now id b s).st.fs := by
  unfold onBatch
  cases h : acquire cfg okPlan now id b s with
  | err s1 => rfl
  | crash s1 => rfl
  | ok a s1 =>
    obtain ⟨a', s2, hw⟩ := writeEvents_okPlan cfg b.rest a b s1
    obtain ⟨hfs, _⟩ := writeEvents_ok b.rest hw
    have hf : flushFile okPlan s2 = .ok () s2.tick := rfl
    simp only [hw, hf, syncAll_okPlan, R.st]
    show names (syncFile s2.fs a'.name) = names s1.fs
    rw [names_syncFile, hfs, names_appendBytes]

theorem memberCount_createFile_ok {cfg : Config} (hmax : 1 ≤ cfg.maxFiles) {now : Parts} {id : Nat} {s s' : St}
    {a : Active} (h : createFile cfg okPlan now id (memberSet cfg s.fs) s = .ok a s') :
    memberCount cfg s'.fs ≤ cfg.maxFiles := by
  rcases createFile_okPlan cfg now id (memberSet cfg s.fs) s with ⟨s2, he, hfs, _⟩ | ⟨s2, he, _⟩ <;> rw [he] at h <;>
    cases h
  -- at most `maxFiles - 1` members are no victims, and the new name adds at most one
  have hkeep := length_filter_not_victims ((names s.fs).filter (isMember cfg.pfx cfg.ext)) (cfg.maxFiles - 1)
  have hlen1 := List.length_filter_le (isMember cfg.pfx cfg.ext) [nameFor cfg.pfx cfg.ext cfg.rollBy now id]
  unfold memberCount
  rw [hfs, names_map _ File.setDurable, show ∀ fs n f, names (fs ++ [(n, f)]) = names fs ++ [n] by simp [names],
    List.filter_append, List.length_append, names_foldl_fsErase, List.filter_filter]
  rw [List.filter_filter] at hkeep
  rw [List.filter_congr fun a _ => Bool.and_comm _ _]
  simp only [List.length_singleton] at hlen1
  exact Nat.le_trans (Nat.add_le_add hkeep hlen1) (by omega)

/-- `max`: either the file is created and the count is at most `maxFiles`, or the call fails and no name was added. -/
theorem memberCount_createFile {cfg : Config} (hmax : 1 ≤ cfg.maxFiles) (now : Parts) (id : Nat) (s : St) :
    memberCount cfg (createFile cfg okPlan now id (memberSet cfg s.fs) s).st.fs ≤
      max cfg.maxFiles (memberCount cfg s.fs) := by
  rcases createFile_okPlan cfg now id (memberSet cfg s.fs) s with ⟨s2, he, _⟩ | ⟨s2, he, hfs⟩ <;> rw [he] <;>
    simp only [R.st]
  · have := memberCount_createFile_ok hmax he
    omega
  · have : memberCount cfg s2.fs ≤ memberCount cfg s.fs := by
      unfold memberCount
      rw [hfs, names_foldl_fsErase]
      exact (List.Sublist.filter _ List.filter_sublist).length_le
    omega

theorem memberCount_openOrCreate {cfg : Config} (hmax : 1 ≤ cfg.maxFiles) (now : Parts) (id : Nat) (b : Batch)
    (s : St) :
    memberCount cfg (openOrCreate cfg okPlan now id b (memberSet cfg s.fs) s).st.fs ≤
      max cfg.maxFiles (memberCount cfg s.fs) := by
  unfold openOrCreate
  split
  · exact memberCount_createFile hmax now id s
  · rename_i n _
    have hn := tryOpenReuse_names cfg n s
    cases h : tryOpenReuse cfg okPlan n s with
    | crash s1 =>
      simp only [h, R.st] at hn ⊢
      rw [memberCount_congr hn]; omega
    | err s1 =>
      simp only [h, R.st] at hn ⊢
      have := memberCount_createFile (cfg := cfg) hmax now id s1
      rw [memberSet_congr hn, memberCount_congr hn] at this
      exact this
    | ok a1 s1 =>
      simp only [h, R.st] at hn ⊢
      by_cases hfit : fits cfg now b a1 = true
      · simp only [hfit, if_true]
        rw [memberCount_congr hn]; omega
      · simp only [hfit]
        have := memberCount_createFile (cfg := cfg) hmax now id s1
        rw [memberSet_congr hn, memberCount_congr hn] at this
        exact this

/-- `op + 1 + 1`: the two calls before the choice, `create_dir_all` and `read_dir`. -/
theorem acquire_okPlan_none (cfg : Config) (now : Parts) (id : Nat) (b : Batch) (s : St) (hs : s.active = none) :
    acquire cfg okPlan now id b s =
      openOrCreate cfg okPlan now id b (memberSet cfg s.fs) { s with active := none, op := s.op + 1 + 1 } := by
  unfold acquire
  simp only [hs]
  rfl

/-- `op + 1`: the `read_dir` before the creation. -/
theorem acquire_okPlan_some (cfg : Config) (now : Parts) (id : Nat) (b : Batch) (s : St) (a : Active)
    (hs : s.active = some a) :
    acquire cfg okPlan now id b s =
      if fits cfg now b a then .ok a { s with active := none }
      else createFile cfg okPlan now id (memberSet cfg s.fs) { s with active := none, op := s.op + 1 } := by
  unfold acquire
  simp only [hs]
  rfl

theorem memberCount_acquire {cfg : Config} (hmax : 1 ≤ cfg.maxFiles) (now : Parts) (id : Nat) (b : Batch)
    (s : St) :
    memberCount cfg (acquire cfg okPlan now id b s).st.fs ≤ max cfg.maxFiles (memberCount cfg s.fs) := by
  cases hs : s.active with
  | some a0 =>
    rw [acquire_okPlan_some cfg now id b s a0 hs]
    by_cases hfit : fits cfg now b a0 = true
    · simp only [hfit, if_true, R.st]; omega
    · simp only [hfit]
      exact memberCount_createFile hmax now id { s with active := none, op := s.op + 1 }
  | none =>
    rw [acquire_okPlan_none cfg now id b s hs]
    exact memberCount_openOrCreate hmax now id b { s with active := none, op := s.op + 1 + 1 }

end EmitModel.FileSet
