/-
  Model/Timestamp.lean — C15. /repo/core/src/timestamp.rs:
    * `Timestamp::from_unix` range check                       :103-109   (MIN = 0, MAX = 9999-12-31T23:59:59.999999999Z)
    * `Timestamp::from_parts` (calendar → instant)             :167-255
    * `Timestamp::to_parts`   (instant → calendar)             :262-337
    * `parse_rfc3339` (after the D10 fix: strict, byte-wise)   :471-…
    * `fmt_rfc3339` with `f.precision()`                        (below the parser)
    * `Timestamp::parse(impl Display)` through `Buffer<30>` :127-134, `FromValue` :435-442
  A timestamp is its total number of nanoseconds since the Unix epoch (`Duration` = secs * 10^9 + subsec_nanos).
  Integer arithmetic follows the Rust types: signed `/` and `%` truncate toward zero (`Int.tdiv`/`Int.tmod`), the
  harness is built in the dev profile so `u8 - 1` on `0` panics (modelled as `Outcome.panic`).
-/
import EmitModel.Model.Text

namespace EmitModel.Timestamp
open EmitModel.Text

def NANOS : Nat := 1000000000
/-- `MAX.as_secs()` -/
def MAX_SECS : Nat := 253402300799
/-- `Timestamp::MAX` in nanoseconds -/
def MAX_NS : Nat := MAX_SECS * NANOS + 999999999

/-- `Parts` (:46-75): u16, u8 ×5, u32. -/
structure Parts where
  years : Nat
  months : Nat
  days : Nat
  hours : Nat
  minutes : Nat
  seconds : Nat
  nanos : Nat
  deriving Repr, DecidableEq, Inhabited

/-- the fields fit their Rust types -/
def Parts.Fits (p : Parts) : Prop :=
  p.years < 65536 ∧ p.months < 256 ∧ p.days < 256 ∧ p.hours < 256 ∧ p.minutes < 256 ∧ p.seconds < 256 ∧
  p.nanos < 4294967296

/-! ### from_parts -/

/-- cumulative days before each month of a non-leap year (the `seconds_within_year` table / 86400, :228-241) -/
def CUM_DAYS : List Nat := [0, 31, 59, 90, 120, 151, 181, 212, 243, 273, 304, 334]

/-- `(is_leap, start_of_year in seconds)` of `from_parts` (:168-221); `year = parts.years - 1900`. -/
def startOfYear (years : Nat) : Bool × Int :=
  let year : Int := (years : Int) - 1900
  -- `year as u64 <= 138`: negative values become huge
  if 0 ≤ year ∧ year ≤ 138 then
    -- `(year - 68) >> 2` is an arithmetic shift (floor); `trailing_zeros() >= 2` is divisibility by 4 (0 included)
    let leaps : Int := (year - 68) / 4
    if (year - 68) % 4 = 0 then (true, 31536000 * (year - 70) + 86400 * (leaps - 1))
    else (false, 31536000 * (year - 70) + 86400 * leaps)
  else
    let cycles0 : Int := (year - 100).tdiv 400
    let rem0 : Int := (year - 100).tmod 400
    let cycles := if rem0 < 0 then cycles0 - 1 else cycles0
    let rem := if rem0 < 0 then rem0 + 400 else rem0
    let (isLeap, centuries, leaps) : Bool × Int × Int :=
      if rem = 0 then (true, 0, 0)
      else
        let (centuries, rem) : Int × Int :=
          if rem ≥ 200 then (if rem ≥ 300 then (3, rem - 300) else (2, rem - 200))
          else if rem ≥ 100 then (1, rem - 100)
          else (0, rem)
        if rem = 0 then (false, centuries, 0)
        else (decide (rem.tmod 4 = 0), centuries, rem.tdiv 4)
    let leaps := leaps + 97 * cycles + 24 * centuries - (if isLeap then 1 else 0)
    (isLeap, (year - 100) * 31536000 + (leaps * 86400 + 946684800 + 86400))

/-- `Timestamp::from_parts` (:167-255). `.panic`: `parts.days - 1` / `parts.months - 1` on a zero `u8`.
    `.ok none`: the result is outside `MIN..=MAX`. -/
def fromParts (p : Parts) : Outcome (Option Nat) :=
  let (isLeap, startOfYear) := startOfYear p.years
  if p.days = 0 then .panic
  else
    let secondsWithinMonth : Nat := 86400 * (p.days - 1) + 3600 * p.hours + 60 * p.minutes + p.seconds
    if p.months = 0 then .panic
    else
      let swy0 : Nat := 86400 * CUM_DAYS[(p.months - 1) % 12]! + secondsWithinMonth
      let secondsWithinYear : Nat := if isLeap ∧ p.months > 2 then swy0 + 86400 else swy0
      let total : Int := startOfYear + secondsWithinYear
      -- `i128 → u64` `try_into().ok()?`
      if total < 0 then .ok none
      else
        -- `Duration::new(secs, nanos)` carries whole seconds out of `nanos`
        let secs := total.toNat + p.nanos / NANOS
        let nanos := p.nanos % NANOS
        -- `Timestamp::from_unix`: `unix_time >= MIN && unix_time <= MAX`
        if secs ≤ MAX_SECS then .ok (some (secs * NANOS + nanos)) else .ok none

/-! ### to_parts -/

/-- `DAYS_IN_MONTH` starting in March (:84) -/
def DAYS_IN_MONTH : List Nat := [31, 30, 31, 30, 31, 31, 30, 31, 30, 31, 31, 29]

/-- the `while DAYS_IN_MONTH[months] <= remdays` loop (:312-316); indexing past the table would panic -/
def monthLoop : List Nat → Nat → Int → Outcome (Nat × Int)
  | [], _, _ => .panic
  | dm :: rest, months, remdays =>
    if (dm : Int) ≤ remdays then monthLoop rest (months + 1) (remdays - dm) else .ok (months, remdays)

/-- The date half of `to_parts` (:273-321): from `days` (days since 2000-03-01, after the `remsecs` fix-up) to
    `(years, months, remdays)` as they stand just before the final `as u16` / `as u8` casts, i.e. `years` still
    relative to 2000, `months` relative to March (−2 … 9), `remdays` the zero-based day of the month. -/
def dateOfDays (days : Int) : Outcome (Int × Int × Int) :=
  let qc0 := days.tdiv 146097
  let rd0 := days.tmod 146097
  let remdays := if rd0 < 0 then rd0 + 146097 else rd0
  let qcCycles := if rd0 < 0 then qc0 - 1 else qc0
  let c0 := remdays.tdiv 36524
  let cCycles := if c0 = 4 then c0 - 1 else c0
  let remdays := remdays - cCycles * 36524
  let q0 := remdays.tdiv 1461
  let qCycles := if q0 = 25 then q0 - 1 else q0
  let remdays := remdays - qCycles * 1461
  let y0 := remdays.tdiv 365
  let remyears := if y0 = 4 then y0 - 1 else y0
  let remdays := remdays - remyears * 365
  let years : Int := remyears + 4 * qCycles + 100 * cCycles + 400 * qcCycles
  match monthLoop DAYS_IN_MONTH 0 remdays with
  | .panic => .panic
  | .err => .err
  | .ok (months, remdays) =>
    let months : Int := months
    if months ≥ 10 then .ok (years + 1, months - 12, remdays) else .ok (years, months, remdays)

/-- `Timestamp::to_parts` (:262-337) for the instant `t` ns. -/
def toPartsO (t : Nat) : Outcome Parts :=
  let secs := t / NANOS
  let nanos := t % NANOS
  -- LEAPOCH_SECS / 86400 = 11017 (2000-03-01)
  let days0 : Int := ((secs / 86400 : Nat) : Int) - 11017
  let remsecs0 : Int := ((secs % 86400 : Nat) : Int)
  let remsecs := if remsecs0 < 0 then remsecs0 + 86400 else remsecs0
  let days := if remsecs0 < 0 then days0 - 1 else days0
  match dateOfDays days with
  | .panic => .panic
  | .err => .err
  | .ok (years, months, remdays) =>
    .ok {
      years := (years + 2000).toNat
      months := (months + 3).toNat
      days := (remdays + 1).toNat
      hours := (remsecs.tdiv 3600).toNat
      minutes := ((remsecs.tdiv 60).tmod 60).toNat
      seconds := (remsecs.tmod 60).toNat
      nanos := nanos }

/-- `to_parts` as a total function (the month loop never leaves its table: theorem `toPartsO_eq`). -/
def toParts (t : Nat) : Parts :=
  match toPartsO t with
  | .ok p => p
  | _ => default

/-! ### fmt_rfc3339 -/

/-- `b'0' + n as u8` -/
def dig (n : Nat) : UInt8 := UInt8.ofNat (48 + n)

/-- `YYYY-MM-DDThh:mm:ss` (buf[0..19]) -/
def fmtDateTime (p : Parts) : List UInt8 :=
  [dig (p.years / 1000), dig (p.years / 100 % 10), dig (p.years / 10 % 10), dig (p.years % 10), 45,
   dig (p.months / 10), dig (p.months % 10), 45,
   dig (p.days / 10), dig (p.days % 10), 84,
   dig (p.hours / 10), dig (p.hours % 10), 58,
   dig (p.minutes / 10), dig (p.minutes % 10), 58,
   dig (p.seconds / 10), dig (p.seconds % 10)]

/-- the first `k ≤ 9` fractional digits: `subsecond_nanos / divisor % 10`, divisor = 10^8, 10^7, … -/
def fracDigits (k : Nat) (nanos : Nat) : List UInt8 :=
  (List.range k).map fun i => dig (nanos / 10 ^ (8 - i) % 10)

/-- `fmt_rfc3339(ts, f)` with `f.precision() = prec`. -/
def fmtParts (prec : Option Nat) (p : Parts) : List UInt8 :=
  match prec with
  | some 0 => fmtDateTime p ++ [90]
  | _ => fmtDateTime p ++ [46] ++ fracDigits (min 9 (prec.getD 9)) p.nanos ++ [90]

def fmtRfc3339O (prec : Option Nat) (t : Nat) : Outcome (List UInt8) :=
  (toPartsO t).map (fmtParts prec)

def fmtRfc3339 (prec : Option Nat) (t : Nat) : List UInt8 := fmtParts prec (toParts t)

/-! ### parse_rfc3339 (strict, after the D10 fix) -/

/-- the local `digits` helper: a run of ASCII digits → its value, anything else → `Err` -/
def digits (bs : List UInt8) : Option Nat :=
  if bs.all isDigit then some (digitsVal bs) else none

def sub (bs : List UInt8) (a b : Nat) : List UInt8 := (bs.drop a).take (b - a)

/-- the tail of `parse_rfc3339`: month/day `00` are rejected, then `from_parts(..).ok_or_else(..)` -/
def finish (years months days hours minutes seconds nanos : Nat) : Outcome Nat :=
  if months = 0 ∨ days = 0 then .err
  else
    match fromParts ⟨years, months, days, hours, minutes, seconds, nanos⟩ with
    | .ok (some t) => .ok t
    | .ok none => .err
    | .err => .err
    | .panic => .panic

/-- every `digits(..)?` must have succeeded -/
def parseFields (years months days hours minutes seconds nanos : Option Nat) : Outcome Nat :=
  match years, months, days, hours, minutes, seconds, nanos with
  | some years, some months, some days, some hours, some minutes, some seconds, some nanos =>
    finish years months days hours minutes seconds nanos
  | _, _, _, _, _, _, _ => .err

/-- the sub-second field: absent, or `.` followed by 1–9 digits, scaled to nanoseconds -/
def parseNanos (s : List UInt8) : Option Nat :=
  if s.length > 20 then
    if s[19]? ≠ some 46 ∨ s.length = 21 then none
    else
      let subsecond := sub s 20 (s.length - 1)
      (digits subsecond).map fun v => v * 10 ^ (9 - subsecond.length)
  else some 0

/-- `parse_rfc3339(fmt: &str)`, check for check in the code's order. No site can panic: all indices are below the
    checked length, slicing is on bytes, month and day `00` are rejected before `from_parts`. (Every failure is
    the same `Err`, so the order in which the fields are examined is not observable.) -/
def parseRfc3339 (s : List UInt8) : Outcome Nat :=
  if s.length < 20 ∨ s.length > 30 then .err
  else if s[4]? ≠ some 45 ∨ s[7]? ≠ some 45 ∨ s[10]? ≠ some 84 ∨ s[13]? ≠ some 58 ∨ s[16]? ≠ some 58 then .err
  else if s[s.length - 1]? ≠ some 90 then .err
  else
    parseFields (digits (sub s 0 4)) (digits (sub s 5 7)) (digits (sub s 8 10)) (digits (sub s 11 13))
      (digits (sub s 14 16)) (digits (sub s 17 19)) (parseNanos s)

/-- `Buffer::<30>::buffer(value)` for a one-`write_str` Display (core/src/buf.rs) -/
def buffer30 (s : List UInt8) : Option (List UInt8) := if s.length ≤ 30 then some s else none

/-- `Timestamp::parse(ts: impl Display)` (:127-134) for a text -/
def parseDisplay (s : List UInt8) : Outcome Nat :=
  match buffer30 s with
  | none => .err
  | some b => parseRfc3339 b

end EmitModel.Timestamp
