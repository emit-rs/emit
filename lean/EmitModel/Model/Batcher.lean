/-
  Model/Batcher.lean — executable model of `emit_batcher` (batcher/src/lib.rs, sync.rs, tokio.rs) as a labelled
  transition system in the `Base/Sched` framework. Shared by C06, C07, C08, C09.

  SHARED STATE = exactly the fields behind `Mutex<State<T>>` (lib.rs:687-696, 713-716):
      pending      State.next_batch.channel         (items accepted, not yet taken)
      pendFlushW   State.next_batch.watchers.on_flush
      pendTakeW    State.next_batch.watchers.on_take   (the `when_empty` callbacks)
      isOpen       State.is_open
      inBatch      State.is_in_batch
  RECEIVER-LOCAL STATE (the locals of `Receiver::exec`, lib.rs:351-478): the control point `rx` with the batch
  and watchers it owns, `retryCur` (Retry.current), `retryDelay` / `idleDelay` (Delay.current).
  ATOMIC STEPS (labels) = the critical sections of the code + the receiver's await points:
      send x, trySend x, whenFlushed w, whenEmpty w, dropSender              (sender side, each one lock section)
      rxTake          lock; swap out the pending batch or take its watchers; unlock          (lib.rs:369-400)
      rxFireTake      ONE `when_empty` callback of the taken batch runs (notify_on_take, lib.rs:403, 748-752)
      rxFireFlush     ONE flush callback runs: of an empty hand-off (lib.rs:466) or after the last attempt of a
                      batch (lib.rs:461). A callback is arbitrary code — it may itself perform sender operations —
                      so every invocation is its own control point: sender labels can be interleaved between two
                      callbacks, between the last callback and the call of on_batch, and between the last callback
                      of an empty hand-off and the exit check.
      rxBegin         once the callbacks have run: resets, re-allocation of the next buffer, the call of on_batch
                      (lib.rs:405-418) — or, for an empty hand-off, the exit check on the `is_open` value read
                      under the lock by rxTake, return / idle wait                            (lib.rs:470-475)
      rxOutcome o     the on_batch call / its future concludes with `o` (the processor is adversarial: any
                      outcome, any remainder): counters, retry decision and wait request, or the batch is
                      finalised and its flush callbacks are due                               (lib.rs:418-461)
      rxRetryWaited   the retry back-off wait completes, on_batch is called with the remainder (lib.rs:433-441)
      rxIdleWaited    the idle wait completes                                                (lib.rs:475)
      dropReceiver    the receiver (future) is torn down at an await point                   (lib.rs:333-341)
  `Capacity::next` (lib.rs:603-628) only sizes the replacement buffer (`with_capacity`); it has no effect on any
  observable and is part of `rxBegin`.

  GHOST HISTORY (written by steps, never read by the non-ghost part of a step):
      accepted / acceptedKept / truncations   everything pushed; minus each cleared segment; the cleared segments
      calls / firstAttempts / retryCalls / lastReturned / callsPerBatch
                                              every on_batch argument; the first attempts; (remainder returned, argument
                                              passed) per retry call; the last returned remainder; calls per batch
      fired / firedTake / registered / registeredTake / dropped
                                              flush resp. when_empty callbacks that ran / were registered (two name
                                              spaces); flush callbacks dropped unrun by a receiver teardown
      obligations / acceptedAt / finalised    per flush watcher: pending ++ in flight resp. everything accepted at its
                                              registration; items of batches whose last attempt has concluded
      waits / batchWaits                      every requested wait duration; the retry waits of the current batch
      tornDown / pendingAtTeardown            the receiver was torn down (not: returned); what was queued then

  Items and watcher ids are natural numbers chosen by the environment (the theorems hold for any choice; the
  correspondence harness uses unique ones).   Import-free.
-/
import EmitModel.Base.Sched

namespace EmitModel.Batcher

/-- Configuration: channel capacity (`Sender.max_capacity`), retry budget (`Retry.max`) and the two `Delay`s. -/
structure Cfg where
  cap : Nat
  retryMax : Nat
  retryStep : Nat
  retryCap : Nat
  idleStep : Nat
  idleCap : Nat
  deriving Repr

/-- The constants of `bounded` (lib.rs:148-156), durations in nanoseconds. -/
def Cfg.real (cap : Nat) : Cfg :=
  { cap := cap, retryMax := 10, retryStep := 700000000, retryCap := 10000000000,
    idleStep := 1000000, idleCap := 500000000 }

/-- `Delay::next` (lib.rs:589-592): `current = min(current * 2 + step, max)`. -/
def delayNext (cur step cap : Nat) : Nat := min (cur * 2 + step) cap

/-- What an `on_batch` invocation does (lib.rs:412-451). -/
inductive Outcome where
  | ok
  | failNoRetry
  | failRetry (rem : List Nat)
  | panicSync
  | panicAsync
  deriving Repr, DecidableEq

inductive Label where
  | send (x : Nat)
  | trySend (x : Nat)
  | whenFlushed (w : Nat)
  | whenEmpty (w : Nat)
  | rxTake
  | rxFireTake
  | rxFireFlush
  | rxBegin
  | rxOutcome (o : Outcome)
  | rxRetryWaited
  | rxIdleWaited
  | dropSender
  | dropReceiver
  deriving Repr, DecidableEq

/-- Control point of `Receiver::exec` together with the data it owns there. `orig` is the first-attempt batch
    (ghost: the items whose final attempt has not concluded), `cur`/`rem` the argument of the current / next call. -/
inductive Rx where
  | idle
  | taken (batch takeW flushW : List Nat) (wasOpen : Bool)   -- takeW / flushW: callbacks still to run / to carry
  | processing (orig cur ws : List Nat)
  | retryWait (orig rem ws : List Nat)
  | notifying (ws : List Nat)                               -- batch finalised; its flush callbacks still to run
  | idleWait
  | done
  deriving Repr, DecidableEq

/-- Items taken out of the channel whose final processing attempt has not concluded. -/
def Rx.inflight : Rx → List Nat
  | .taken b _ _ _ => b
  | .processing o _ _ => o
  | .retryWait o _ _ => o
  | _ => []

/-- Flush watchers travelling with the batch the receiver holds. -/
def Rx.ws : Rx → List Nat
  | .taken _ _ fw _ => fw
  | .processing _ _ ws => ws
  | .retryWait _ _ ws => ws
  | .notifying ws => ws
  | _ => []

/-- `when_empty` watchers the receiver holds (between the unlock and `notify_on_take`). -/
def Rx.takeWs : Rx → List Nat
  | .taken _ tw _ _ => tw
  | _ => []

/-- The batch swapped out but not yet handed to `on_batch`. -/
def Rx.takenBatch : Rx → List Nat
  | .taken b _ _ _ => b
  | _ => []

structure St where
  -- shared, behind the mutex
  pending : List Nat
  pendFlushW : List Nat
  pendTakeW : List Nat
  isOpen : Bool
  inBatch : Bool
  -- receiver-local
  rx : Rx
  retryCur : Nat
  retryDelay : Nat
  idleDelay : Nat
  -- the Sender handle exists
  senderAlive : Bool
  -- InternalMetrics (write-only counters, internal_metrics.rs:49-56)
  mTruncated : Nat
  mProcessed : Nat
  mFailed : Nat
  mPanicked : Nat
  mRetry : Nat
  -- ghost history
  accepted : List Nat
  acceptedKept : List Nat
  truncations : List (List Nat)
  calls : List (List Nat)
  firstAttempts : List (List Nat)
  retryCalls : List (List Nat × List Nat)
  lastReturned : List Nat
  callsPerBatch : List Nat
  fired : List Nat            -- flush callbacks that ran (ids of `whenFlushed`)
  firedTake : List Nat        -- `when_empty` callbacks that ran (ids of `whenEmpty`; a separate name space)
  registered : List Nat
  registeredTake : List Nat
  dropped : List Nat
  obligations : List (Nat × List Nat)   -- (w, pending ++ in flight) at the registration of flush watcher w
  acceptedAt : List (Nat × List Nat)    -- (w, everything accepted so far) at the registration of flush watcher w
  finalised : List Nat
  waits : List Nat
  batchWaits : List Nat
  tornDown : Bool
  pendingAtTeardown : List Nat
  deriving Repr

/-- `bounded(max_capacity)` (lib.rs:130-159). -/
def init : St :=
  { pending := [], pendFlushW := [], pendTakeW := [], isOpen := true, inBatch := false,
    rx := .idle, retryCur := 0, retryDelay := 0, idleDelay := 0, senderAlive := true,
    mTruncated := 0, mProcessed := 0, mFailed := 0, mPanicked := 0, mRetry := 0,
    accepted := [], acceptedKept := [], truncations := [], calls := [], firstAttempts := [],
    retryCalls := [], lastReturned := [], callsPerBatch := [], fired := [], firedTake := [], registered := [],
    registeredTake := [], dropped := [],
    obligations := [], acceptedAt := [], finalised := [], waits := [], batchWaits := [], tornDown := false,
    pendingAtTeardown := [] }

/-- Result of `try_send` (lib.rs:205-220): `Ok`, `Err(retry(.., msg))`, `Err(no_retry(..))`. -/
inductive TryRes where
  | ok
  | full (x : Nat)
  | closed
  deriving Repr, DecidableEq

/-- `l` without its last `n` elements (ghost bookkeeping of a truncation). -/
def dropTail (l : List Nat) (n : Nat) : List Nat := l.take (l.length - n)

/-- `channel.clear()` + `queue_full_truncated.increment()` (lib.rs:188-189). Ghost: the cleared segment is
    recorded and removed from `acceptedKept` (it is its tail, theorem `partition_fifo`). -/
def truncate (s : St) : St :=
  { s with pending := [], mTruncated := s.mTruncated + 1,
           truncations := s.truncations ++ [s.pending],
           acceptedKept := dropTail s.acceptedKept s.pending.length }

/-- `channel.push(msg)` (lib.rs:197, 214). Ghost: the item is accepted. -/
def push (s : St) (x : Nat) : St :=
  { s with pending := s.pending ++ [x], accepted := s.accepted ++ [x],
           acceptedKept := s.acceptedKept ++ [x] }

/-- `Sender::send` (lib.rs:181-198): clear when `len >= capacity` and count; return if closed; push. -/
def send (cfg : Cfg) (s : St) (x : Nat) : St :=
  let s1 := if s.pending.length ≥ cfg.cap then truncate s else s
  if !s1.isOpen then s1 else push s1 x

/-- `Sender::try_send` (lib.rs:205-220). -/
def trySend (cfg : Cfg) (s : St) (x : Nat) : St × TryRes :=
  if !s.isOpen then (s, .closed)
  else if s.pending.length < cfg.cap then (push s x, .ok)
  else (s, .full x)

/-- `ChannelMetrics::sample_metrics` (lib.rs:658-679): the queue length is read in its own scoped lock section
    (`{ lock().next_batch.channel.len() }`) — the guard is released BEFORE any `sampler.metric(..)` callback runs.
    Sampling is a pure read of the shared state; whatever the sampler's callback does (e.g. `send` on the very
    channel it samples) is an ordinary subsequent step. -/
def sampleQueueLength (s : St) : Nat := s.pending.length

/-- `Sender::when_empty` (lib.rs:263-277). -/
def whenEmpty (s : St) (w : Nat) : St :=
  let s := { s with registeredTake := s.registeredTake ++ [w] }
  if s.pending.isEmpty then { s with firedTake := s.firedTake ++ [w] }
  else { s with pendTakeW := s.pendTakeW ++ [w] }

/-- `Sender::when_flushed` (lib.rs:284-303). Ghost: the obligation of `w` is everything accepted and not yet
    through its final attempt at this instant. -/
def whenFlushed (s : St) (w : Nat) : St :=
  let s := { s with registered := s.registered ++ [w],
                    obligations := s.obligations ++ [(w, s.pending ++ s.rx.inflight)],
                    acceptedAt := s.acceptedAt ++ [(w, s.accepted)] }
  if !s.inBatch && (s.pending.isEmpty || !s.isOpen) then { s with fired := s.fired ++ [w] }
  else { s with pendFlushW := s.pendFlushW ++ [w] }

/-- The critical section of the receiver loop (lib.rs:363-394). -/
def rxTake (s : St) : Option St :=
  match s.rx with
  | .idle =>
    if s.pending.length > 0 then
      some { s with inBatch := true, rx := .taken s.pending s.pendTakeW s.pendFlushW s.isOpen,
                    pending := [], pendTakeW := [], pendFlushW := [] }
    else
      some { s with inBatch := false, rx := .taken [] s.pendTakeW s.pendFlushW s.isOpen,
                    pendTakeW := [], pendFlushW := [] }
  | _ => none

/-- One `when_empty` callback of the taken batch runs (`notify_on_take`, lib.rs:397). -/
def rxFireTake (s : St) : Option St :=
  match s.rx with
  | .taken b (w :: tw) fw wasOpen =>
    some { s with firedTake := s.firedTake ++ [w], rx := .taken b tw fw wasOpen }
  | _ => none

/-- Loop head, or flush callbacks of a finalised batch still to run. -/
def afterNotify : List Nat → Rx
  | [] => .idle
  | ws => .notifying ws

/-- One flush callback runs: of an empty hand-off, after its `when_empty` callbacks (lib.rs:460), or of a batch
    whose last attempt has concluded (lib.rs:455). -/
def rxFireFlush (s : St) : Option St :=
  match s.rx with
  | .taken [] [] (w :: fw) wasOpen =>
    some { s with fired := s.fired ++ [w], rx := .taken [] [] fw wasOpen }
  | .notifying (w :: ws) =>
    some { s with fired := s.fired ++ [w], rx := afterNotify ws }
  | _ => none

/-- After the callbacks up to the first await (lib.rs:399-412 and 464-469). -/
def rxBegin (cfg : Cfg) (s : St) : Option St :=
  match s.rx with
  | .taken b [] fw wasOpen =>
    if b.length > 0 then
      some { s with retryCur := 0, retryDelay := 0, idleDelay := 0,              -- resets (399-402)
                    rx := .processing b b fw,                                    -- on_batch(batch) (412)
                    calls := s.calls ++ [b], firstAttempts := s.firstAttempts ++ [b],
                    callsPerBatch := s.callsPerBatch ++ [1], batchWaits := [] }
    else
      match fw with
      | [] =>
        -- the exit check uses the `is_open` value read under the lock by rxTake (lib.rs:376/384, 464)
        if !wasOpen then some { s with rx := .done, isOpen := false }            -- return; Receiver dropped (464-466)
        else
          let d := delayNext s.idleDelay cfg.idleStep cfg.idleCap                -- wait(idle_delay.next()) (469)
          some { s with idleDelay := d, waits := s.waits ++ [d], rx := .idleWait }
      | _ => none
  | _ => none

/-- The last attempt of the batch has concluded: its items are final, its flush callbacks are due (lib.rs:455). -/
def conclude (s : St) (orig ws : List Nat) : St :=
  { s with finalised := s.finalised ++ orig, rx := afterNotify ws }

/-- The on_batch call concludes with outcome `o` (lib.rs:412-451). -/
def rxOutcome (cfg : Cfg) (s : St) (o : Outcome) : Option St :=
  match s.rx with
  | .processing orig _cur ws =>
    match o with
    | .ok => some (conclude { s with mProcessed := s.mProcessed + 1 } orig ws)
    | .failNoRetry => some (conclude { s with mFailed := s.mFailed + 1 } orig ws)
    | .failRetry rem =>
      let s := { s with mFailed := s.mFailed + 1 }
      if rem.length > 0 then
        let s := { s with retryCur := s.retryCur + 1 }                           -- Retry::next (638-641)
        if s.retryCur ≤ cfg.retryMax then
          let d := delayNext s.retryDelay cfg.retryStep cfg.retryCap             -- wait(retry_delay.next()) (427)
          some { s with retryDelay := d, waits := s.waits ++ [d], batchWaits := s.batchWaits ++ [d],
                        lastReturned := rem, rx := .retryWait orig rem ws }
        else some (conclude s orig ws)
      else some (conclude s orig ws)
    | .panicSync => some (conclude { s with mPanicked := s.mPanicked + 1 } orig ws)
    | .panicAsync => some (conclude { s with mPanicked := s.mPanicked + 1 } orig ws)
  | _ => none

/-- `x :: xs` with the last element incremented (ghost: one more call for the current batch). -/
def bumpLast : List Nat → List Nat
  | [] => []
  | [n] => [n + 1]
  | n :: ns => n :: bumpLast ns

/-- The retry wait is over: the remainder becomes the batch, the watchers stay (lib.rs:429-435, 412). -/
def rxRetryWaited (s : St) : Option St :=
  match s.rx with
  | .retryWait orig rem ws =>
    some { s with rx := .processing orig rem ws, mRetry := s.mRetry + 1, calls := s.calls ++ [rem],
                  retryCalls := s.retryCalls ++ [(s.lastReturned, rem)],
                  callsPerBatch := bumpLast s.callsPerBatch }
  | _ => none

def rxIdleWaited (s : St) : Option St :=
  match s.rx with
  | .idleWait => some { s with rx := .idle }
  | _ => none

/-- `Drop for Sender` (lib.rs:169-173). -/
def dropSender (s : St) : St := { s with isOpen := false, senderAlive := false }

/-- The receiver is torn down (`Drop for Receiver`, lib.rs:330-338): possible before `exec` is first polled and at
    its await points, not between the unlock and the call of `on_batch` (no await there). Watchers owned by the
    future are dropped unfired. -/
def dropReceiver (s : St) : Option St :=
  match s.rx with
  | .taken _ _ _ _ => none
  | .notifying _ => none
  | .done => none
  | r => some { s with isOpen := false, rx := .done, tornDown := true, pendingAtTeardown := s.pending,
                        dropped := s.dropped ++ r.ws }

/-- The transition function. Sender-side labels need the `Sender` handle. -/
def step (cfg : Cfg) (s : St) : Label → Option St
  | .send x => if s.senderAlive then some (send cfg s x) else none
  | .trySend x => if s.senderAlive then some (trySend cfg s x).1 else none
  | .whenFlushed w => if s.senderAlive then some (whenFlushed s w) else none
  | .whenEmpty w => if s.senderAlive then some (whenEmpty s w) else none
  | .rxTake => rxTake s
  | .rxFireTake => rxFireTake s
  | .rxFireFlush => rxFireFlush s
  | .rxBegin => rxBegin cfg s
  | .rxOutcome o => rxOutcome cfg s o
  | .rxRetryWaited => rxRetryWaited s
  | .rxIdleWaited => rxIdleWaited s
  | .dropSender => if s.senderAlive then some (dropSender s) else none
  | .dropReceiver => dropReceiver s

/-- Every state reachable under SOME interleaving of sender operations, receiver steps and outcomes. -/
def Reachable (cfg : Cfg) (s : St) : Prop := Sched.Reachable (step cfg) init s

/-! ### User code the receiver calls besides `wait` / `on_batch` / the watchers: the `Channel` trait methods

`Channel` (lib.rs:44-94) is implemented by the USER of the crate, so every call of one of its methods is a call-out
into arbitrary code — which may itself use the `Sender`. `Receiver::exec` calls `new`, `len` and `with_capacity`
(never `push` / `clear` / `is_empty`: those are the sender's, always under the lock). A call made while the state
lock is held is part of the atomic step it sits in (re-entering the channel from there dead-locks; nothing can be
interleaved); a call made outside the lock is an interleaving point BETWEEN two labels of the system: sender
labels executed "inside" it are ordinary steps of the LTS at that position. The two functions below say where
the calls are, in code order; the driver (Driver/Batcher.lean `chanWindows`) takes the window positions and the
`held` verdicts from them, and stream `batcher` checks both against the real receiver (a harness-defined channel
type whose methods probe the lock and run scripted sender ops). -/

/-- The `Channel` methods `Receiver::exec` calls. -/
inductive ChanCall where
  | new            -- `T::new()`
  | len            -- `channel.len()`
  | withCapacity   -- `T::with_capacity(n)`
  deriving Repr, DecidableEq

/-- A call site: which method, and whether the state lock is held there. -/
structure ChanSite where
  call : ChanCall
  locked : Bool
  deriving Repr, DecidableEq

/-- `let mut next_batch = Batch::new()` (lib.rs:365): when `exec` is first polled, before the loop — no lock. -/
def chanCallsAtStart : List ChanSite := [⟨.new, false⟩]

/-- The `Channel` calls the receiver makes at the START of label `l` in state `s`, before any effect of the label:
      rxTake                 `state.next_batch.channel.len()` (lib.rs:377), then `mem::take(&mut next_batch)` =
                             `Batch::default()` = `T::new()` (381) resp. `T::new()` (394) — INSIDE the critical section
      rxBegin, batch ≠ []    `current_batch.channel.len()` and `T::with_capacity(..)` (lib.rs:412), no lock
      rxOutcome (retry rem)  `retryable.len()` (lib.rs:430), no lock — before `Retry::next` and the wait request -/
def chanCallsIn (s : St) : Label → List ChanSite
  | .rxTake => [⟨.len, true⟩, ⟨.new, true⟩]
  | .rxBegin => if s.rx.takenBatch.length > 0 then [⟨.len, false⟩, ⟨.withCapacity, false⟩] else []
  | .rxOutcome (.failRetry _) => [⟨.len, false⟩]
  | _ => []

/-- … and right AFTER label `l` has led to `s'`: `current_batch.channel.len()` (lib.rs:405), once per hand-off, as soon
    as `notify_on_take` is through (after the hand-off itself when no `when_empty` watcher was taken, else after the
    callback of the last one) — no lock; before the flush callbacks of an empty hand-off resp. the resets. -/
def chanCallsAfter (s' : St) : Label → List ChanSite
  | .rxTake | .rxFireTake => match s'.rx with
    | .taken _ [] _ _ => [⟨.len, false⟩]
    | _ => []
  | _ => []

/-! ### The blocking / async send variants as steps (`send_or_wait`, lib.rs:225-259)

`send_or_wait` = a first `try_send`; on ANY error the call is counted in `queue_full_blocked` (lib.rs:237) —
never in `queue_full_truncated` — and the loop is entered: clock reading, timeout check, `wait_until_empty` (a
`when_empty` registration plus a runtime wait for the REMAINING time), `try_send` again. Every one of these is a
step of the base system except the counter, so the extended system below adds exactly one label. The second
counter lives outside `St`: no step of the base system reads or writes it, so every theorem about `Reachable`
carries over verbatim (`BReachable b → Reachable b.st`, Thm/C09.lean `blocking_variants_are_base_steps`). -/

/-- The channel state together with `InternalMetrics::queue_full_blocked` (internal_metrics.rs:49-56). -/
structure BSt where
  st : St
  mBlocked : Nat
  deriving Repr

def binit : BSt := { st := init, mBlocked := 0 }

/-- The first attempt of `send_or_wait` (lib.rs:232-237): `try_send`; `Ok` → done; any `Err` (full or closed) →
    `queue_full_blocked.increment()` before the loop is entered. -/
def sendOrWaitFirst (cfg : Cfg) (b : BSt) (x : Nat) : BSt × TryRes :=
  match trySend cfg b.st x with
  | (s, .ok) => ({ b with st := s }, .ok)
  | (s, e) => ({ st := s, mBlocked := b.mBlocked + 1 }, e)

/-- Labels of the extended system: every label of the base system, plus the first attempt of a blocking / async
    send (`sync::blocking_send`, `tokio::blocking_send`, `tokio::send`). The later rounds of such a call are the
    base labels `whenEmpty w` (the waker registered by `wait_until_empty`) and `trySend x`. -/
inductive BLabel where
  | base (l : Label)
  | sendOrWaitFirst (x : Nat)
  deriving Repr, DecidableEq

def bstep (cfg : Cfg) (b : BSt) : BLabel → Option BSt
  | .base l => (step cfg b.st l).map fun s => { b with st := s }
  | .sendOrWaitFirst x => if b.st.senderAlive then some (sendOrWaitFirst cfg b x).1 else none

def BReachable (cfg : Cfg) (b : BSt) : Prop := Sched.Reachable (bstep cfg) binit b

/-- 1 if this label, executed in `b`, is a plain `send` that finds the queue full (lib.rs:190-193), else 0. -/
def truncatingSend (cfg : Cfg) (b : BSt) : BLabel → Nat
  | .base (.send _) => if b.st.pending.length ≥ cfg.cap then 1 else 0
  | _ => 0

/-- 1 if this label, executed in `b`, is the first attempt of a blocking / async send that fails, else 0. -/
def blockedSend (cfg : Cfg) (b : BSt) : BLabel → Nat
  | .sendOrWaitFirst x => if (trySend cfg b.st x).2 = .ok then 0 else 1
  | _ => 0

/-- Sum of `f state label` along the execution of `ls` from `b`. -/
def countAlong (cfg : Cfg) (f : BSt → BLabel → Nat) : BSt → List BLabel → Nat
  | _, [] => 0
  | b, l :: ls => match bstep cfg b l with
    | none => 0
    | some b' => f b l + countAlong cfg f b' ls

/-- Labels that are steps of the receiver's loop (or of the processor / timer it awaits). The individual callback
    invocations `rxFireTake` / `rxFireFlush` are NOT counted: the bounded-liveness theorems bound the number of
    loop steps, however many callbacks are registered. -/
def Label.isRx : Label → Bool
  | .rxTake | .rxBegin | .rxOutcome _ | .rxRetryWaited | .rxIdleWaited => true
  | _ => false

def Rx.alive : Rx → Bool
  | .done => false
  | _ => true

/-! ### The blocking / async entry points: decision logic (sync.rs, tokio.rs)

The runtime parts (condvar, oneshot, timers, clocks) are parameters: the functions below take what those
primitives returned and reproduce the control flow of the code around them. -/

/-- What one `Condvar::wait_timeout` call returned (sync.rs:171): the flag as seen after re-acquiring the
    mutex, whether the wait timed out, and the time that passed. -/
structure CvWake where
  flag : Bool
  timedOut : Bool
  elapsed : Nat
  deriving Repr

/-- `Trigger::wait_timeout` (sync.rs:155-193). `flag0` is the flag at the first lock; `none` = the condvar has
    not returned (yet) — the list of wake-ups is exhausted. -/
def waitTimeout : (timeout : Nat) → (flag0 : Bool) → List CvWake → Option Bool
  | timeout, flag, wakes =>
    if flag then some true                                      -- sync.rs:160
    else if timeout = 0 then some false                         -- sync.rs:166
    else match wakes with
      | [] => none
      | w :: rest =>
        if !w.timedOut then
          if w.elapsed ≤ timeout then waitTimeout (timeout - w.elapsed) w.flag rest   -- checked_sub = Some
          else some w.flag                                      -- checked_sub = None (sync.rs:180)
        else some w.flag                                        -- timed out (sync.rs:188)

/-- Total time `Trigger::wait_timeout` spends inside `Condvar::wait_timeout` calls. -/
def waitTimeoutSpent : (timeout : Nat) → (flag0 : Bool) → List CvWake → Nat
  | timeout, flag, wakes =>
    if flag then 0
    else if timeout = 0 then 0
    else match wakes with
      | [] => 0
      | w :: rest =>
        if !w.timedOut then
          if w.elapsed ≤ timeout then w.elapsed + waitTimeoutSpent (timeout - w.elapsed) w.flag rest
          else w.elapsed
        else w.elapsed

/-- Every condvar wait that is performed returns within the time it was asked for, plus a slack `δ`
    (the runtime assumption about `Condvar::wait_timeout`). -/
def waitTimeoutHonest (δ : Nat) : (timeout : Nat) → (flag0 : Bool) → List CvWake → Prop
  | timeout, flag, wakes =>
    if flag then True
    else if timeout = 0 then True
    else match wakes with
      | [] => True
      | w :: rest =>
        w.elapsed ≤ timeout + δ ∧
        (if !w.timedOut then
          (if w.elapsed ≤ timeout then waitTimeoutHonest δ (timeout - w.elapsed) w.flag rest else True)
         else True)

/-- State of the oneshot at `try_recv` (tokio.rs:123). -/
inductive Oneshot where
  | sent      -- the callback ran (`notifier.send(())`)
  | empty     -- neither sent nor dropped
  | hungUp    -- the callback was dropped without running
  deriving Repr, DecidableEq

/-- What `tokio::time::timeout(timeout, notified)` resolved to (tokio.rs:133). -/
inductive TimedRecv where
  | received
  | hungUp
  | elapsed
  deriving Repr, DecidableEq

/-- `tokio::wait` (tokio.rs:121-141). -/
def oneshotWait (timeout : Nat) (atTry : Oneshot) (later : TimedRecv) : Bool :=
  if atTry = .sent then true                                    -- try_recv().is_ok()
  else if timeout = 0 then false
  else match later with
    | .received => true
    | .hungUp => true
    | .elapsed => false

/-- Result of `send_or_wait` (lib.rs:222-256). -/
inductive SendRes where
  | ok                  -- the item was enqueued
  | handedBack (x : Nat)  -- `Err` carrying the item
  | errNoItem           -- `Err` without the item (the channel was closed)
  deriving Repr, DecidableEq

/-- The loop of `send_or_wait` (lib.rs:236-253) given, per iteration, the clock reading and the result of the
    `try_send` after the wait. `none` = still waiting (observations exhausted). -/
def sendOrWaitLoop (timeout : Nat) : (err : TryRes) → List (Nat × TryRes) → Option SendRes
  | err, [] => match err with
    | .ok => some .ok
    | _ => none
  | err, (elapsed, next) :: rest =>
    match err with
    | .ok => some .ok
    | .full x =>
      if elapsed ≥ timeout then some (.handedBack x)             -- lib.rs:239-241
      else match next with                                       -- wait, then try_send again (243-246)
        | .ok => some .ok
        | e => sendOrWaitLoop timeout e rest
    | .closed =>
      if elapsed ≥ timeout then some .errNoItem                  -- `Err(err)` with retryable = None
      else some .errNoItem                                       -- `err.try_into_retryable()?` (246)

/-- The clock reading of the last loop iteration of `send_or_wait` that was entered (the call returns right at it,
    or right after the `try_send` that follows its wait). -/
def sendOrWaitLastReading (timeout : Nat) : (err : TryRes) → List (Nat × TryRes) → Option Nat
  | _, [] => none
  | err, (elapsed, next) :: rest =>
    match err with
    | .ok => none
    | .closed => some elapsed
    | .full _ =>
      if elapsed ≥ timeout then some elapsed
      else match next with
        | .ok => some elapsed
        | e => match sendOrWaitLastReading timeout e rest with
          | some t => some t
          | none => some elapsed

/-- What `send_or_wait` passes to `wait_until_empty` (lib.rs:246), per loop iteration that waits: the clock reading
    and the duration asked for — `timeout.saturating_sub(elapsed)`, the REMAINING time, not `timeout`. (With a
    `closed` error the loop still waits once before `try_into_retryable()?` returns, lib.rs:246-249.) -/
def sendOrWaitAsked (timeout : Nat) : (err : TryRes) → List (Nat × TryRes) → List (Nat × Nat)
  | _, [] => []
  | err, (elapsed, next) :: rest =>
    match err with
    | .ok => []
    | .closed => if elapsed ≥ timeout then [] else [(elapsed, timeout - elapsed)]
    | .full _ =>
      if elapsed ≥ timeout then []
      else (elapsed, timeout - elapsed) :: (match next with
        | .ok => []
        | e => sendOrWaitAsked timeout e rest)

/-- Remaining-time accounting (lib.rs:243): every wait round is asked for `timeout - elapsed`, NOT for `timeout`.
    The runtime assumption: a wait returns within the time it was asked for plus a slack `δ`, i.e. the next
    clock reading is at most `elapsed + (timeout - elapsed) + δ`; `bound` is that bound for the current reading
    (`δ` for the first one: the loop is entered right after the start). -/
def sendOrWaitHonest (δ timeout : Nat) : (bound : Nat) → (err : TryRes) → List (Nat × TryRes) → Prop
  | _, _, [] => True
  | bound, err, (elapsed, next) :: rest =>
    elapsed ≤ bound ∧
    match err with
    | .full _ =>
      if elapsed ≥ timeout then True
      else match next with
        | .ok => True
        | e => sendOrWaitHonest δ timeout (elapsed + (timeout - elapsed) + δ) e rest
    | _ => True

/-- `send_or_wait` (lib.rs:222-256): first `try_send`, then the loop. -/
def sendOrWait (timeout : Nat) (first : TryRes) (obs : List (Nat × TryRes)) : Option SendRes :=
  match first with
  | .ok => some .ok
  | e => sendOrWaitLoop timeout e obs

/-- Calling context of a blocking entry point. -/
inductive Ctx where
  | plainThread
  | tokioMultiThread
  | tokioCurrentThread
  | tokioMultiThreadNoDrivers          -- worker of a multi-thread runtime built without time / io drivers
  | tokioMultiThreadNoDriversBlockOn   -- inside `block_on` of such a runtime (runtime context, not a worker)
  | tokioCurrentThreadNoDrivers        -- current-thread runtime built without drivers
  deriving Repr, DecidableEq

/-- The runtime of the calling context has a time driver (`enable_time` / `enable_all`). -/
def Ctx.hasTimeDriver : Ctx → Bool
  | .tokioMultiThread | .tokioCurrentThread => true
  | _ => false

def Ctx.isCurrentThread : Ctx → Bool
  | .tokioCurrentThread | .tokioCurrentThreadNoDrivers => true
  | _ => false

/-- Which module's blocking entry points are called. -/
inductive Api where
  | sync     -- `emit_batcher::sync::{blocking_flush, blocking_send}`
  | tokio    -- `emit_batcher::tokio::{blocking_flush, blocking_send}`
  | async    -- `emit_batcher::tokio::{flush, send}` awaited inside a runtime (no blocking at all)
  deriving Repr, DecidableEq

/-- How a blocking entry point waits. -/
inductive BlockingPath where
  | condvar          -- `sync::blocking_*` on the calling thread (condvar + `Trigger::wait_timeout`)
  | blockInPlace     -- the same inside `tokio::task::block_in_place` (worker of a multi-thread runtime)
  | handleBlockOn    -- `Handle::block_on` from a thread that drives a runtime: tokio panics
  | blockInPlaceAsync  -- `block_in_place(|| handle.block_on(<async variant>))`: waits with `tokio::time::timeout`,
                       -- which panics ("timers are disabled") on a runtime built without a time driver
  deriving Repr, DecidableEq

/-- `tokio::block_in_place_if_possible` (tokio.rs, after fix D3): `Handle::try_current()` succeeds inside both
    runtime flavours; only the multi-thread flavour may `block_in_place`; everything else runs the condvar path
    directly. (Before the fix both runtime contexts took `Handle::block_on`, i.e. `handleBlockOn`.)
    `sync::*` never looks at the context. -/
def blockingPath : Api → Ctx → BlockingPath
  | .sync, _ => .condvar
  | .async, _ => .condvar   -- not blocking: awaited (listed so that the table is total; never panics)
  | .tokio, .plainThread => .condvar
  | .tokio, .tokioMultiThread => .blockInPlace
  | .tokio, .tokioMultiThreadNoDrivers => .blockInPlace
  | .tokio, .tokioMultiThreadNoDriversBlockOn => .blockInPlace
  | .tokio, .tokioCurrentThread => .condvar
  | .tokio, .tokioCurrentThreadNoDrivers => .condvar

/-- tokio's documented behaviour (parameter table, trusted): `block_in_place` is legal on a multi-thread worker
    and panics on a current-thread runtime; `Handle::block_on` panics on any thread that is driving a runtime;
    a condvar wait is legal anywhere and needs no runtime driver; `tokio::time::timeout` needs the time driver. -/
def pathPanics : BlockingPath → Ctx → Bool
  | .condvar, _ => false
  | .blockInPlace, ctx => ctx.isCurrentThread
  | .handleBlockOn, .plainThread => false
  | .handleBlockOn, _ => true
  | .blockInPlaceAsync, .plainThread => false
  | .blockInPlaceAsync, ctx => ctx.isCurrentThread || !ctx.hasTimeDriver   -- a call that has to wait

/-- Receiver the blocking call runs against (stream `batcher_blocking`). -/
inductive RxKind where
  | live | stalled | gone
  | refill   -- full queue, one take at 0.7·T, refilled at once by an earlier when_empty callback, no further take
  | late     -- stalled when the call starts, started 30 ms later: the call has to wait, then the queue is drained
  | hangup   -- the receiver takes the batch with the watcher, never finishes it and is torn down
  deriving Repr, DecidableEq

/-- The channel state before the blocking call: receiver dropped or not, then `prefill` plain sends. -/
def prefillState (cfg : Cfg) (rx : RxKind) (prefill : Nat) : St :=
  let s0 := if rx = .gone then (dropReceiver init).getD init else init
  (List.range prefill).foldl (fun s i => send cfg s (i + 1)) s0

/-- `sync::blocking_flush` (sync.rs:65-90): register a callback that sets the trigger, then `wait_timeout`.
    The wake-ups are what the runtime delivers: against a live receiver the callback runs (bounded liveness,
    C08 `callbacks_fire_bounded`) and notifies the condvar; against a stalled or dropped one the wait times out. -/
def blockingFlush (cfg : Cfg) (rx : RxKind) (prefill timeout : Nat) : Option Bool :=
  let s := whenFlushed (prefillState cfg rx prefill) 0
  let flag0 := decide (0 ∈ s.fired)
  let wakes : List CvWake := match rx with
    | .live => [{ flag := true, timedOut := false, elapsed := 0 }]
    | .late => [{ flag := true, timedOut := false, elapsed := 30 }]
    | .refill => [{ flag := false, timedOut := true, elapsed := timeout }]
    | _ => [{ flag := false, timedOut := true, elapsed := timeout }]
  waitTimeout timeout flag0 wakes

/-- `tokio::flush` (tokio.rs:65-73): register a callback that sends on a oneshot, then `wait`. Against a live
    receiver the callback runs; against a stalled one the timeout elapses; when the receiver is torn down while
    it holds the watcher the oneshot hangs up. -/
def asyncFlush (cfg : Cfg) (rx : RxKind) (prefill timeout : Nat) : Bool :=
  let s := whenFlushed (prefillState cfg rx prefill) 0
  let atTry : Oneshot := if 0 ∈ s.fired then .sent else .empty
  let later : TimedRecv := match rx with
    | .live => .received
    | .late => .received
    | .hangup => .hungUp
    | _ => .elapsed
  oneshotWait timeout atTry later

/-- Stream `batcher_blocking`, case `blseq`: two blocking flushes in a row on one thread against a hand-driven
    receiver. Each call owns its trigger (`Trigger::new()` per call, sync.rs:79), so what a call's `wait_timeout`
    reads is "has the callback registered by THIS call run"; the callback of the earlier, timed-out call running
    during the later call does not concern it. Returns the two results and the final state. -/
def flushSequence (cfg : Cfg) : Option (Bool × Bool × St) := do
  let run := Sched.run (step cfg)
  -- item 1 in flight, item 2 queued, flush #1 (watcher 1, 50 ms): nothing completes meanwhile → times out
  let s1 ← run init [.send 1, .rxTake, .rxBegin, .send 2, .whenFlushed 1]
  let f1 ← waitTimeout 50 (decide (1 ∈ s1.fired)) [{ flag := decide (1 ∈ s1.fired), timedOut := true, elapsed := 50 }]
  -- [1] completes, [2] is taken (with watcher 1); item 3; flush #2 (watcher 2, 3 s)
  let s2 ← run s1 [.rxOutcome .ok, .rxTake, .rxBegin, .send 3, .whenFlushed 2]
  -- +100 ms: [2] completes, the callback of flush #1 runs, [3] is taken (with watcher 2)
  let s3 ← run s2 [.rxOutcome .ok, .rxFireFlush, .rxTake, .rxBegin]
  -- +100 ms: [3] completes, the callback of flush #2 runs
  let s4 ← run s3 [.rxOutcome .ok, .rxFireFlush]
  let f2 ← waitTimeout 3000 (decide (2 ∈ s2.fired))
    [{ flag := decide (2 ∈ s3.fired), timedOut := false, elapsed := 100 },
     { flag := decide (2 ∈ s4.fired), timedOut := false, elapsed := 100 }]
  pure (f1, f2, s4)

/-- Stream `batcher_blocking`, case `blslow`: a processor whose single attempt takes arbitrarily long behind
    `tokio::spawn` (tokio.rs:17-44: `exec` with `tokio::time::sleep` as the wait and the user's `on_batch` awaited in
    place). `n` items are queued before the receiver starts; it takes them and hands them to the processor; while
    that attempt is in flight a companion watcher (0) and the flush's own watcher (1) are registered. The attempt
    concludes with `o` — after however long it takes: NO label carries a duration, which is why the length of the
    attempt cannot matter — the next hand-off finds the queue empty and notifies both watchers, one after the other.
    The flush (`tokio::flush` = `oneshotWait`; the blocking ones read their trigger the same way) sees its oneshot
    sent. Returns the result, the number of items through their final attempt when the companion ran and when the
    flush's own callback had run, and the final state. -/
def slowFlush (cfg : Cfg) (n : Nat) (o : Outcome) (timeout : Nat) : Option (Bool × Nat × Nat × St) := do
  let run := Sched.run (step cfg)
  let s1 ← run (prefillState cfg .live n) [.rxTake, .rxBegin, .whenFlushed 0, .whenFlushed 1]
  let s2 ← run s1 [.rxOutcome o, .rxTake, .rxFireFlush]
  let s3 ← run s2 [.rxFireFlush]
  let r := oneshotWait timeout (if 1 ∈ s1.fired then .sent else .empty) (if 1 ∈ s3.fired then .received else .elapsed)
  pure (r, s2.finalised.length, s3.finalised.length, s3)

/-- `sync::blocking_send` (sync.rs:97-140) = `send_or_wait` with the condvar wait. Against a live receiver the
    queue has been taken when the wait returns; against a stalled one the wait lasts until the timeout. -/
def blockingSendObs (cfg : Cfg) (rx : RxKind) (prefill timeout : Nat) (x : Nat) : TryRes × List (Nat × TryRes) :=
  let s := prefillState cfg rx prefill
  let first := (trySend cfg s x).2
  let obs : List (Nat × TryRes) := match rx with
    | .live => [(0, .ok)]
    -- woken at 0.7·T, the slot is gone; the second wait is asked for the remaining 0.3·T and times out at T
    | .refill => [(0, first), (timeout * 7 / 10, first), (timeout, first)]
    | .late => [(0, .ok)]
    | _ => [(0, first), (timeout, first)]
  (first, obs)

def blockingSend (cfg : Cfg) (rx : RxKind) (prefill timeout : Nat) (x : Nat) : Option SendRes :=
  let (first, obs) := blockingSendObs cfg rx prefill timeout x
  sendOrWait timeout first obs

/-- `(queue_full_truncated, queue_full_blocked)` after a blocking / async send against the prefilled channel: the
    first attempt is the label `sendOrWaitFirst` (the only place `send_or_wait` touches a counter, lib.rs:237); the
    later rounds are `when_empty` registrations and `try_send`s, which move neither counter. So the truncations are
    those of the prefill (plain sends) and the call counts as blocked iff its first attempt failed. -/
def blockingSendCounters (cfg : Cfg) (rx : RxKind) (prefill : Nat) (x : Nat) : Nat × Nat :=
  let b := (sendOrWaitFirst cfg { st := prefillState cfg rx prefill, mBlocked := 0 } x).1
  (b.st.mTruncated, b.mBlocked)

/-! ### `BatchError<T>`: what a processor can hand back (lib.rs:495-545) -/

/-- `BatchError { retryable: Option<T> }` — the error value itself is not kept. -/
structure BErr (T : Type) where
  retryable : Option T
  deriving Repr, DecidableEq

def BErr.noRetry {T : Type} : BErr T := ⟨none⟩
def BErr.retry {T : Type} (rem : T) : BErr T := ⟨some rem⟩
/-- `map_retryable`: `f` always runs, on `Some` or on `None` -/
def BErr.mapRetryable {T U : Type} (e : BErr T) (f : Option T → Option U) : BErr U := ⟨f e.retryable⟩
def BErr.tryIntoRetryable {T : Type} (e : BErr T) : Except (BErr T) T :=
  match e.retryable with
  | some r => .ok r
  | none => .error ⟨none⟩

end EmitModel.Batcher
